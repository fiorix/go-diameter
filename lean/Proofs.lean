import Proofs.Alias
import Proofs.ApiMsg
import Proofs.Basic
import Proofs.Bufio
import Proofs.Client
import Proofs.CloseLock
import Proofs.Codec
import Proofs.Conn
import Proofs.ConnData
import Proofs.ConnWrite
import Proofs.Cost
import Proofs.Dict
import Proofs.DictMono
import Proofs.Encode
import Proofs.Find
import Proofs.Frame
import Proofs.Header
import Proofs.Leaf
import Proofs.Listener
import Proofs.LocalAddr
import Proofs.Mux
import Proofs.Pool
import Proofs.ReadFull
import Proofs.Reflect
import Proofs.ReflectInv
import Proofs.ReflectWire
import Proofs.RoundTrip
import Proofs.Run
import Proofs.SM
import Proofs.SMServer
import Proofs.Sctp
import Proofs.SerFits
import Proofs.Shared
import Proofs.Split
import Proofs.Stream
import Proofs.WireRT
import Proofs.Writers
