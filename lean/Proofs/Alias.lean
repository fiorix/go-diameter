import Model.Alias
/-! No decoded value is a view when every slice-typed decoder copies (C06). -/
namespace DV

theorem leafView_none (cfg : AliasCfg) (h : cfg.allCopy = true) (t : Nat) (p : Bytes) : leafView cfg t p = none := by
  simp only [AliasCfg.allCopy, Bool.and_eq_true, Bool.not_eq_true'] at h
  simp [leafView, h]

-- once the inner walks and `leafView` give nothing, every branch is `[]`
mutual
theorem viewsAVP_nil (cfg : AliasCfg) (h : cfg.allCopy = true) (ty : Nat → Nat → Nat) :
    ∀ (fuel base : Nat) (data : Bytes), viewsAVP cfg ty fuel base data = []
  | 0, _, _ => rfl
  | fuel+1, _, _ => by
    rw [viewsAVP]
    simp only [viewsAVPs_nil cfg h ty fuel, leafView_none cfg h, ite_self]
theorem viewsAVPs_nil (cfg : AliasCfg) (h : cfg.allCopy = true) (ty : Nat → Nat → Nat) :
    ∀ (fuel base : Nat) (b : Bytes), viewsAVPs cfg ty fuel base b = []
  | 0, _, _ => rfl
  | fuel+1, _, _ => by
    rw [viewsAVPs]
    simp only [viewsAVP_nil cfg h ty fuel, viewsAVPs_nil cfg h ty fuel, List.append_nil, ite_self]
end

/-- a message without views looks the same in every memory -/
theorem observe_noviews (mem mem' : Mem) (m : Retained) (h : m.views = []) : observe mem' m = observe mem m := by
  rw [observe, observe, h]; rfl

theorem observe_samebuf (mem mem' : Mem) (m : Retained) (h : mem'[m.buf]? = mem[m.buf]?) :
    observe mem' m = observe mem m := by
  unfold observe readView
  rw [h]

/-- buffers that are not in the pool are never written by later reads, and stay out of the pool -/
theorem apply_unpooled (cfg : AliasCfg) (mem : Mem) (o : AOp) (i : Nat) (b : Buf)
    (hi : mem[i]? = some b) (hp : b.pooled = false) : (o.apply cfg mem)[i]? = some b := by
  fun_cases AOp.apply cfg mem o
  next => exact hi -- read, a body above the pooled size
  next j hj => -- read into the pooled buffer `j`: it is pooled, so it is another one
    have hjm : j ∈ pooledIdx mem := List.mem_of_getElem? hj
    rw [pooledIdx, List.mem_filter] at hjm
    have hne : j ≠ i := fun e => by simp [e, hi, hp] at hjm
    rwa [List.getElem?_modify_ne _ _ hne]
  next => rwa [List.getElem?_append_left (List.getElem?_eq_some_iff.1 hi).1] -- read into a new buffer
  next => -- gc
    rw [List.getElem?_map, hi]
    cases b; cases hp; rfl
  next => exact hi -- write

theorem runOps_unpooled (cfg : AliasCfg) : ∀ (ops : List AOp) (mem : Mem) (i : Nat) (b : Buf),
    mem[i]? = some b → b.pooled = false → (runOps cfg mem ops)[i]? = some b
  | [], _, _, _, hi, _ => hi
  | o :: os, mem, i, b, hi, hp => runOps_unpooled cfg os _ i b (apply_unpooled cfg mem o i b hi hp) hp

end DV
