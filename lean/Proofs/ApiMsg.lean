import Proofs.RoundTrip
import Proofs.Split
/-!
  `ReadMessage (Serialize m)` at message level (the body of `C01_api_msg`), kept
  here so that C05's end-to-end theorem can use it without importing C01's regenerated
  obligations (a change that breaks `C01_gen` must not make C05 fail to build).
-/
namespace DV
open DV.Spec

theorem api_msg_rt (d : DictFn) (m : Msg) (nreq nans : Nat)
    (hv : m.hdr.version < 256) (hf : m.hdr.flags < 256) (hcmd : m.hdr.cmd < 16777216)
    (happ : m.hdr.app < 4294967296) (hh : m.hdr.hbh < 4294967296) (he : m.hdr.e2e < 4294967296)
    (hlen : m.hdr.len = m.len) (hsz : m.len < 16777216)
    (hcmdr : d.cmdRules m.hdr.app m.hdr.cmd = some (nreq, nans))
    (hrules : (if isRequest m.hdr.flags then nreq else nans) ≠ 0)
    (hc : canonL m.avps = true) (ht : typedOkL (d.avpType m.hdr.app) m.avps = true) :
    decodeMsg d m.enc = .ok { hdr := m.hdr, avps := wireL m.avps } := by
  have hel := encL_length m.avps hc
  have hhl := header_enc_length m.hdr
  rw [Msg.len] at hlen hsz
  refine decodeMsg_eq_ok.mpr ⟨m.hdr, ?_, by omega, ?_, ?_⟩
  · rw [Msg.enc, List.take_left' hhl]
    exact header_roundtrip m.hdr hv (by omega) hf hcmd happ hh he
  · rw [Msg.enc, List.length_append, hhl, hel, hlen]; exact Nat.le_refl _
  · rw [Msg.enc, List.drop_left' hhl, hlen, Nat.add_sub_cancel_left, ← hel, List.take_length]
    exact decodeBody_eq_msg.mpr ⟨(nreq, nans), hcmdr, hrules, rfl,
      api_avps_rt (d.avpType m.hdr.app) m.avps hc ht (by omega), rfl⟩

end DV
