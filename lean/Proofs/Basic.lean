import Model.Basic
/-! Lemmas about `be`, `rd`, `pad4`. -/
namespace DV

@[simp] theorem be_length (k n : Nat) : (be k n).length = k := by
  induction k with
  | zero => rfl
  | succ k ih => rw [be, List.length_cons, ih]

theorem rd_nil : rd [] = 0 := rfl

theorem foldl_rd (bs : Bytes) (a : Nat) :
    bs.foldl (fun acc b => acc * 256 + b.toNat) a = a * 256 ^ bs.length + rd bs := by
  induction bs generalizing a with
  | nil => simp [rd]
  | cons b r ih =>
    rw [rd, List.foldl_cons, List.foldl_cons, ih, ih (0 * 256 + b.toNat), List.length_cons, Nat.pow_succ]
    simp only [Nat.zero_mul, Nat.zero_add, Nat.add_mul, Nat.mul_assoc, Nat.mul_comm 256, Nat.add_assoc, rd]

theorem rd_cons (b : UInt8) (r : Bytes) : rd (b :: r) = b.toNat * 256 ^ r.length + rd r := by
  rw [rd, List.foldl_cons, foldl_rd, Nat.zero_mul, Nat.zero_add]

theorem rd_lt (bs : Bytes) : rd bs < 256 ^ bs.length := by
  induction bs with
  | nil => exact Nat.one_pos
  | cons b r ih =>
    have : (b.toNat + 1) * 256 ^ r.length ≤ 256 * 256 ^ r.length := Nat.mul_le_mul_right _ b.toNat_lt
    rw [Nat.succ_mul] at this
    rw [rd_cons, List.length_cons, Nat.pow_succ, Nat.mul_comm (256 ^ r.length)]
    omega

theorem rd_be (k n : Nat) : rd (be k n) = n % 256 ^ k := by
  induction k with
  | zero => exact (Nat.mod_one n).symm
  | succ k ih =>
    rw [be, rd_cons, be_length, ih, Nat.mod_pow_succ, UInt8.toNat_ofNat', Nat.mul_comm, Nat.add_comm]

/-- `be k` sees the low `k` octets only -/
theorem be_add_mul : ∀ (k m x : Nat), be k (m + x * 256 ^ k) = be k m
  | 0, _, _ => rfl
  | k+1, m, x => by
    rw [be, be, Nat.pow_succ, Nat.mul_comm (256 ^ k), ← Nat.mul_assoc,
      Nat.add_mul_div_right _ _ (Nat.pow_pos (by decide)), be_add_mul k m,
      ← UInt8.ofNat_mod_size, Nat.add_mul_mod_self_right, UInt8.ofNat_mod_size]

theorem be_rd (bs : Bytes) : be bs.length (rd bs) = bs := by
  induction bs with
  | nil => rfl
  | cons b r ih =>
    rw [List.length_cons, be, rd_cons, Nat.add_comm, be_add_mul, ih,
      Nat.add_mul_div_right _ _ (Nat.pow_pos (by decide)), Nat.div_eq_of_lt (rd_lt r), Nat.zero_add,
      UInt8.ofNat_toNat]

theorem be_rd_of_length {bs : Bytes} {k : Nat} (h : bs.length = k) : be k (rd bs) = bs := h ▸ be_rd bs

theorem rd_lt_of_length {bs : Bytes} {k : Nat} (h : bs.length = k) : rd bs < 256 ^ k := h ▸ rd_lt bs

theorem rd_be_of_lt {k n : Nat} (h : n < 256 ^ k) : rd (be k n) = n := by
  rw [rd_be, Nat.mod_eq_of_lt h]

theorem take1_drop (l : Bytes) (i : Nat) (h : i < l.length) : (l.drop i).take 1 = [l.getD i 0] := by
  rw [List.drop_eq_getElem_cons h, List.getD_eq_getElem?_getD, List.getElem?_eq_getElem h]
  rfl

theorem be_rd_take (b : Bytes) (i k : Nat) (h : i + k ≤ b.length) :
    be k (rd ((b.drop i).take k)) = (b.drop i).take k :=
  be_rd_of_length (List.length_take_of_le (List.length_drop ▸ Nat.le_sub_of_add_le' h))

theorem pad4_mod (n : Nat) : pad4 n % 4 = 0 := by unfold pad4; omega
theorem pad4_ge (n : Nat) : n ≤ pad4 n := Nat.le_add_right ..
theorem pad4_lt (n : Nat) : pad4 n < n + 4 := Nat.add_lt_add_left (Nat.mod_lt _ (by decide)) n

theorem pad4_sub_self (n : Nat) : pad4 n - n = (4 - n % 4) % 4 := Nat.add_sub_cancel_left ..

theorem pad4_sub_of_mod {n : Nat} (h : n % 4 = 0) : pad4 n - n = 0 := by rw [pad4_sub_self, h]

/-- behind a header of 8 or 12 octets the padding is that of the data alone -/
theorem pad4_add_hdr {hl : Nat} (h : hl % 4 = 0) (l : Nat) : pad4 (hl + l) = hl + pad4 l := by
  rw [pad4, pad4, Nat.add_mod, h, Nat.zero_add, Nat.mod_mod, Nat.add_assoc]

theorem pad4_sub_add_hdr {hl : Nat} (h : hl % 4 = 0) (l : Nat) : pad4 (hl + l) - (hl + l) = pad4 l - l := by
  rw [pad4_add_hdr h, Nat.add_sub_add_left]

/-! Inversion of `mapR` / `bindR` on a success, and their panics. -/
namespace Res

@[simp] theorem bindR_ok (a : α) (f : α → Res β) : (Res.ok a).bindR f = f a := rfl
@[simp] theorem mapR_ok (g : α → β) (a : α) : (Res.ok a).mapR g = .ok (g a) := rfl

theorem mapR_eq_ok {g : α → β} {r : Res α} {b : β} : r.mapR g = .ok b ↔ ∃ a, r = .ok a ∧ g a = b := by
  cases r <;> simp [mapR]

theorem bindR_eq_ok {r : Res α} {f : α → Res β} {b : β} :
    r.bindR f = .ok b ↔ ∃ a, r = .ok a ∧ f a = .ok b := by
  cases r <;> simp [bindR]

/-- the step of a loop that collects results: one outcome, then the rest, combined by `g` -/
theorem bindR_mapR_eq_ok {x : Res α} {y : α → Res β} {g : α → β → γ} {c : γ} :
    (x.bindR fun a => (y a).mapR (g a)) = .ok c ↔ ∃ a b, x = .ok a ∧ y a = .ok b ∧ g a b = c := by
  simp only [bindR_eq_ok, mapR_eq_ok, exists_and_left]

theorem bindR_congr {r : Res α} {f g : α → Res β} (h : ∀ a, r = .ok a → f a = g a) : r.bindR f = r.bindR g := by
  cases r with
  | ok a => exact h a rfl
  | err e => rfl
  | panic p => rfl

@[simp] theorem isPanic_mapR (g : α → β) (r : Res α) : (r.mapR g).isPanic = r.isPanic := by
  cases r <;> rfl

theorem isPanic_bindR {r : Res α} {f : α → Res β} (hr : r.isPanic = false)
    (hf : ∀ a, (f a).isPanic = false) : (r.bindR f).isPanic = false := by
  cases r with
  | ok a => exact hf a
  | err e => rfl
  | panic p => exact hr

/-- a guard that fails with an error adds no panic -/
theorem isPanic_ite (c : Prop) [Decidable c] (e : String) {r : Res α} (h : r.isPanic = false) :
    (if c then Res.err e else r).isPanic = false := by
  split
  · rfl
  · exact h

end Res

end DV
