import Model.Bufio
/-! The loop of `writeRetry` offers, attempt by attempt, exactly the suffix not yet accepted (C07 A); `response.Write`
    over the connection's `bufio.Writer`, and the same loop on top of it. -/
namespace DV

/-- what each attempt must be offered: the not-yet-accepted suffix -/
def offeredSpec : Bytes → List Bytes → List Bytes
  | _, [] => []
  | b, a :: as => b :: offeredSpec (b.drop a.length) as

theorem writeRetry_spec (b : Bytes) (r : Nat) (os : List Outcome) (hc : contract b r os) :
    (writeRetry b r os).accepted.flatten = b.take (writeRetry b r os).n ∧
    (writeRetry b r os).n ≤ b.length ∧
    ((writeRetry b r os).err = none → (writeRetry b r os).accepted.flatten = b) ∧
    (writeRetry b r os).offered = offeredSpec b (writeRetry b r os).accepted ∧
    (writeRetry b r os).offered.length ≤ r + 1 := by
  fun_induction writeRetry b r os with
  | case1 b r => simp [offeredSpec] -- the script of outcomes has run out
  | case2 b r o os hstop => -- the loop stops: all written, no retry left, or a permanent error
    obtain ⟨⟨hk, hfull⟩, -⟩ := hc
    exact ⟨by simp, hk, fun he => by simp [hfull he], by simp [offeredSpec], by simp⟩
  | case3 b r o os hstop res ih => -- it retries with what is left
    obtain ⟨⟨hk, -⟩, hrest⟩ := hc
    rw [if_neg hstop] at hrest
    obtain ⟨h1, h2, h3, h4, h5⟩ := ih hrest
    have hlen : (b.take o.k).length = o.k := List.length_take_of_le hk
    rw [List.length_drop] at h2
    dsimp only [res]
    refine ⟨?_, Nat.add_le_of_le_sub' hk h2, fun he => ?_, ?_, ?_⟩
    · rw [List.flatten_cons, h1, ← List.take_add]
    · rw [List.flatten_cons, h3 he, List.take_append_drop]
    · rw [offeredSpec, hlen, h4]
    · rw [Nat.sub_add_cancel (Nat.pos_of_ne_zero fun h => hstop (.inr (.inl h)))] at h5
      exact Nat.succ_le_succ h5

/-- a writer in its normal state: nothing buffered, no error -/
def BW.healthy (st : BW) : Prop := st.err = none ∧ st.buf = []

theorem twrite_cases (p : Bytes) (os : List Outcome) :
    (∃ os', twrite p os = ((p.length, none), os')) ∨
    (∃ k e os', twrite p os = ((k, some e), os') ∧ k ≤ p.length) := by
  fun_cases twrite p os
  · exact .inl ⟨_, rfl⟩
  · exact .inl ⟨_, rfl⟩
  · exact .inr ⟨_, _, _, rfl, Nat.min_le_right _ _⟩

theorem BW.eta_err (st : BW) (h : st.err = none) : { st with err := none } = st := by
  cases st; cases h; rfl
theorem BW.eta_buf (st : BW) (h : st.buf = []) : { st with buf := [] } = st := by
  cases st; cases h; rfl

/-! What `BW.write` and `BW.flush` do on each form of writer that `respWrite` meets. -/

theorem BW.write_err {f : Nat} (hf : f ≠ 0) (n : Nat) (buf : Bytes) (e : EK) (p : Bytes) (os : List Outcome) :
    BW.write f ⟨n, buf, some e⟩ p os = (0, ⟨⟨n, buf, some e⟩, os, []⟩) := by
  obtain ⟨f, rfl⟩ := Nat.exists_eq_succ_of_ne_zero hf
  rw [BW.write, if_neg (fun h => nomatch h.2), if_pos nofun]

theorem BW.write_fits {f : Nat} (hf : f ≠ 0) {n : Nat} {p : Bytes} (hp : p.length ≤ n) (os : List Outcome) :
    BW.write f ⟨n, [], none⟩ p os = (p.length, ⟨⟨n, p, none⟩, os, []⟩) := by
  obtain ⟨f, rfl⟩ := Nat.exists_eq_succ_of_ne_zero hf
  rw [BW.write, if_neg (fun h => Nat.not_lt.2 hp h.1), if_neg (fun h => h rfl)]
  rfl

/-- a write larger than the empty buffer goes to the transport directly -/
theorem BW.write_direct (f : Nat) {n : Nat} {p : Bytes} (hp : p.length > n) {os os' : List Outcome} {k : Nat}
    {e : Option EK} (ht : twrite p os = ((k, e), os')) :
    BW.write (f+1) ⟨n, [], none⟩ p os =
      let (nn, r) := BW.write f ⟨n, [], e⟩ (p.drop k) os'
      (k + nn, { r with acc := p.take k :: r.acc }) := by
  rw [BW.write, if_pos ⟨hp, rfl⟩, if_pos List.length_nil, ht]

theorem BW.flush_nil (n : Nat) (err : Option EK) (os : List Outcome) :
    BW.flush ⟨n, [], err⟩ os = ⟨⟨n, [], err⟩, os, []⟩ := by
  cases err <;> rfl

/-- (`generalizing := false` keeps `ht`, which mentions `e`, out of the `match`) -/
theorem BW.flush_cons (n : Nat) {buf : Bytes} (hb : buf ≠ []) {os os' : List Outcome} {k : Nat} {e : Option EK}
    (ht : twrite buf os = ((k, e), os')) :
    BW.flush ⟨n, buf, none⟩ os =
      match (generalizing := false) e with
      | none => ⟨⟨n, [], none⟩, os', [buf]⟩
      | some e => ⟨⟨n, buf.drop k, some e⟩, os', [buf.take k]⟩ := by
  rw [BW.flush]; dsimp only
  rw [if_neg (fun h => hb (List.eq_nil_of_length_eq_zero h)), ht]
  cases e <;> rfl

/-- once a transport write has failed the writer refuses everything without touching the
    transport -/
theorem respWrite_sticky (st : BW) (e : EK) (he : st.err = some e) (p : Bytes) (os : List Outcome) :
    respWrite st p os = ((0, some e), { st := st, os := os, acc := [] }) := by
  obtain ⟨n, buf, _⟩ := st
  cases he
  rw [respWrite, BW.write_err (Nat.succ_ne_zero _)]

/-! A healthy writer hands a message to the transport in one `twrite`, buffered or not. -/

theorem respWrite_nil (n : Nat) (os : List Outcome) :
    respWrite ⟨n, [], none⟩ [] os = ((0, none), ⟨⟨n, [], none⟩, os, []⟩) := by
  simp only [respWrite, BW.write_fits (p := []) (Nat.succ_ne_zero _) (Nat.zero_le n), BW.flush_nil]
  rfl

theorem respWrite_ok (n : Nat) {p : Bytes} (hp : p ≠ []) {os os' : List Outcome}
    (ht : twrite p os = ((p.length, none), os')) :
    respWrite ⟨n, [], none⟩ p os = ((p.length, none), ⟨⟨n, [], none⟩, os', [p]⟩) := by
  by_cases hbig : p.length > n
  · simp only [respWrite, BW.write_direct _ hbig ht, List.drop_length, List.take_length,
      BW.write_fits (p := []) (Nat.ne_zero_of_lt hbig) (Nat.zero_le n), BW.flush_nil]
    rfl
  · simp only [respWrite, BW.write_fits (Nat.succ_ne_zero _) (Nat.not_lt.1 hbig), BW.flush_cons n hp ht]
    rfl

theorem respWrite_fail (n : Nat) {p : Bytes} (hp : p ≠ []) {os os' : List Outcome} {k : Nat} {e : EK}
    (ht : twrite p os = ((k, some e), os')) :
    ∃ buf', respWrite ⟨n, [], none⟩ p os = ((0, some e), ⟨⟨n, buf', some e⟩, os', [p.take k]⟩) := by
  by_cases hbig : p.length > n
  · exact ⟨[], by simp only [respWrite, BW.write_direct _ hbig ht, BW.write_err (Nat.ne_zero_of_lt hbig)]⟩
  · refine ⟨p.drop k, ?_⟩
    simp only [respWrite, BW.write_fits (Nat.succ_ne_zero _) (Nat.not_lt.1 hbig), BW.flush_cons n hp ht]
    rfl

/-- a healthy writer: the transport is given the message or a prefix of it, exactly once; the
    call succeeds iff it was all of it, and then the writer is healthy again; otherwise the
    writer is left in the sticky state -/
theorem respWrite_healthy (st : BW) (h : st.healthy) (p : Bytes) (os : List Outcome) :
    (∃ os', respWrite st p os = ((p.length, none), { st := st, os := os', acc := if p = [] then [] else [p] })) ∨
    (∃ k e os' buf', k ≤ p.length ∧
      respWrite st p os = ((0, some e), { st := { st with buf := buf', err := some e }, os := os', acc := [p.take k] })) := by
  obtain ⟨n, _, _⟩ := st
  obtain ⟨rfl, rfl⟩ := h
  by_cases hp : p = []
  · subst hp; exact .inl ⟨os, respWrite_nil n os⟩
  rw [if_neg hp]
  rcases twrite_cases p os with ⟨os', ht⟩ | ⟨k, e, os', ht, hk⟩
  · exact .inl ⟨os', respWrite_ok n hp ht⟩
  · obtain ⟨buf', h⟩ := respWrite_fail n hp ht
    exact .inr ⟨k, e, os', buf', hk, h⟩

theorem connWriteRetry_ok {r : Nat} {st : BW} {b : Bytes} {os : List Outcome} {n : Nat} {w : BWOut}
    (h : respWrite st b os = ((n, none), w)) :
    connWriteRetry r st b os = ⟨w.st, w.os, w.acc, 1, n, none⟩ := by
  rw [connWriteRetry, h]

/-- A failed `respWrite` leaves the writer in the sticky state, where every further attempt fails in
    the same way and changes nothing (`respWrite_sticky`). -/
theorem connWriteRetry_err {e : EK} {r : Nat} {st : BW} {b : Bytes} {os : List Outcome} {w : BWOut}
    (h : respWrite st b os = ((0, some e), w)) (hw : w.st.err = some e) :
    connWriteRetry r st b os = ⟨w.st, w.os, w.acc, if e = .perm then 1 else r + 1, 0, some e⟩ := by
  induction r generalizing st b os w with
  | zero => rw [connWriteRetry, h]; cases e <;> rfl
  | succ r ih =>
    rw [connWriteRetry, h]
    dsimp only
    split
    next => rfl
    next hp =>
      rw [ih (respWrite_sticky w.st e hw _ w.os) hw, if_neg hp]
      simp

/-- `WriteToWithRetry` on a `diam.Conn` whose writer is healthy: for every message image, retry
    budget and transport behaviour, the transport is given a prefix of the message, once;
    a nil error means it was given all of it, the count is its length and the writer is healthy
    again; an error leaves the writer refusing everything from then on, so the incomplete
    message is the last thing the transport ever receives from this connection. -/
theorem connWriteRetry_spec (r : Nat) (st : BW) (h : st.healthy) (b : Bytes) (os : List Outcome) :
    (∃ k, k ≤ b.length ∧ (connWriteRetry r st b os).accepted.flatten = b.take k) ∧
    ((connWriteRetry r st b os).err = none →
      (connWriteRetry r st b os).accepted.flatten = b ∧ (connWriteRetry r st b os).n = b.length ∧
      (connWriteRetry r st b os).st.healthy) ∧
    ((connWriteRetry r st b os).err ≠ none → (connWriteRetry r st b os).st.err ≠ none) := by
  rcases respWrite_healthy st h b os with ⟨os', hw⟩ | ⟨k, e, os', buf', hk, hw⟩
  · rw [connWriteRetry_ok hw]
    have hb : (if b = [] then [] else [b]).flatten = b := by
      split
      next h => exact h.symm
      next => exact List.append_nil b
    exact ⟨⟨b.length, Nat.le_refl _, hb.trans (List.take_length).symm⟩, fun _ => ⟨hb, rfl, h⟩, fun h => absurd rfl h⟩
  · rw [connWriteRetry_err hw rfl]
    exact ⟨⟨k, hk, List.append_nil _⟩, nofun, fun _ => nofun⟩
