import Model.Client
import Proofs.Run
/-! Invariants of the handshake and watchdog transition systems (C12, C13); the step lemmas are written as the
    header of `Proofs.Run` describes. -/
namespace DV

section
variable {R : Nat} {s s' : HS} {e : HEv} {k : CEAKind}

theorem HS.run_inv {P : HS → Prop} (hstep : ∀ {s e s'}, P s → s.step e = some s' → P s') :
    ∀ es s s', P s → s.run es = some s' → P s' :=
  run_invariant (fun _ => rfl) (fun s e _ => by rw [HS.run]; cases s.step e <;> rfl) hstep

theorem handleCEA_fired (ho : s.onceOnly = true) (hf : s.fired = true) : s.handleCEA k = s := by
  simp only [HS.handleCEA, ho, hf, and_self, if_true]

theorem handleCEA_failing (hf : s.fired = false) (hc : s.errcClosed = false) (hb : s.buf.length < s.cap) :
    s.handleCEA .failing = { s with fired := true, buf := s.buf ++ [true] } := by
  simp only [HS.handleCEA, hf, hc, hb, and_false, if_true, if_false, Bool.false_eq_true]

theorem handleCEA_success (hf : s.fired = false) (hc : s.errcClosed = false) :
    s.handleCEA .success = { s with fired := true, hasMeta := true, errcClosed := true } := by
  simp only [HS.handleCEA, hf, hc, and_false, if_false, Bool.false_eq_true]

/-- `handleCEA` touches the handler's and the channel's state only -/
theorem handleCEA_frame (s : HS) (k : CEAKind) :
    { (s.handleCEA k) with fired := s.fired, buf := s.buf, pending := s.pending, hasMeta := s.hasMeta, errcClosed := s.errcClosed, panics := s.panics, readerGone := s.readerGone } = s := by
  fun_cases HS.handleCEA s k <;> rfl

@[simp] theorem handleCEA_pc (s : HS) (k : CEAKind) : (s.handleCEA k).pc = s.pc :=
  (congrArg HS.pc (handleCEA_frame s k) :)
@[simp] theorem handleCEA_libClosed (s : HS) (k : CEAKind) : (s.handleCEA k).libClosed = s.libClosed :=
  (congrArg HS.libClosed (handleCEA_frame s k) :)
@[simp] theorem handleCEA_cers (s : HS) (k : CEAKind) : (s.handleCEA k).cers = s.cers :=
  (congrArg HS.cers (handleCEA_frame s k) :)
@[simp] theorem handleCEA_timers (s : HS) (k : CEAKind) : (s.handleCEA k).timers = s.timers :=
  (congrArg HS.timers (handleCEA_frame s k) :)

/-- a finished handshake stays finished, with the same outcome -/
theorem HS.step_done {o : HOutcome} (hp : s.pc = .done o) (hs : s.step e = some s') : s'.pc = .done o := by
  revert hs
  fun_cases HS.step s e <;> rintro ⟨⟩
  -- a CEA, handled or left over, and the peer closing leave `pc` alone; the other events need another `pc`
  next g => cases hp.symm.trans g.1
  next g => cases hp.symm.trans g
  next g _ => cases hp.symm.trans g
  next g _ => cases hp.symm.trans g
  next g _ _ _ => cases hp.symm.trans g
  next g _ _ => cases hp.symm.trans g
  next g _ _ _ => cases hp.symm.trans g
  next => exact (handleCEA_pc s _).trans hp
  next => exact (handleCEA_pc s _).trans hp
  next => exact hp

/-- what holds at each point of the transmission loop -/
abbrev HS.At (s : HS) : HPc → Prop
  | .writing => s.cers = s.round ∧ s.timers = s.round ∧ s.round ≤ s.R ∧ s.libClosed = false
  | .selecting => s.cers = s.round + 1 ∧ s.timers = s.round ∧ s.round ≤ s.R ∧ s.libClosed = false
  | .done .ok => s.cers ≤ s.R + 1 ∧ s.cers ≤ s.timers + 1 ∧ s.libClosed = false
  | .done _ => s.cers ≤ s.R + 1 ∧ s.cers ≤ s.timers + 1 ∧ s.libClosed = true

theorem HS.At.cersLe {p : HPc} (l : s.At p) : s.cers ≤ s.R + 1 ∧ s.cers ≤ s.timers + 1 := by
  cases p with
  | done o => cases o <;> exact ⟨l.1, l.2.1⟩
  | _ => dsimp only [HS.At] at l; omega

/-- the handshake has closed the transport exactly when it has ended in a failure -/
theorem HS.At.libClosed {p : HPc} (l : s.At p) : s.libClosed = true ↔ ∃ o, p = .done o ∧ o ≠ .ok := by
  cases p with
  | writing => exact ⟨fun h => absurd (l.2.2.2 ▸ h) nofun, nofun⟩
  | selecting => exact ⟨fun h => absurd (l.2.2.2 ▸ h) nofun, nofun⟩
  | done o => cases o with
    | ok => exact ⟨fun h => absurd (l.2.2 ▸ h) nofun, fun ⟨_, e, ho⟩ => by cases e; exact absurd rfl ho⟩
    | _ => exact ⟨fun _ => ⟨_, rfl, nofun⟩, fun _ => l.2.2⟩

/-- the handler has not run; or it has reported an error that waits in `errc`; or `errc` is closed -/
def HS.Errc (s : HS) : Prop :=
  (s.fired = false ∧ s.buf = [] ∧ s.errcClosed = false ∧ s.hasMeta = false) ∨
  (s.fired = true ∧ s.buf = [true] ∧ s.errcClosed = false ∧ s.hasMeta = false) ∨
  (s.fired = true ∧ s.buf = [] ∧ s.errcClosed = true)

/-- invariant of the handshake with retransmission budget `R`, `handleCEA` running once and a
    buffered `errc`. `closedWhy`: `errc` is closed by the handler on a success, or else by the handshake
    as it gives up - so a handshake that finds it closed while still selecting has the peer's metadata. -/
structure HInv (R : Nat) (s : HS) : Prop where
  budget : s.R = R
  once : s.onceOnly = true
  cap : 1 ≤ s.cap
  noPanic : s.panics = 0
  noBlock : s.pending = false
  errc : s.Errc
  loop : s.At s.pc
  okMeta : s.pc = .done .ok → s.hasMeta = true
  closedWhy : s.errcClosed = true → s.hasMeta = true ∨ s.libClosed = true

theorem HInv_init (R cap : Nat) (w : Bool) (hc : 1 ≤ cap) : HInv R (HS.init R cap true w) :=
  ⟨rfl, rfl, hc, rfl, rfl, .inl ⟨rfl, rfl, rfl, rfl⟩, ⟨rfl, rfl, Nat.zero_le _, rfl⟩, nofun, nofun⟩

theorem HInv_handleCEA (k : CEAKind) (h : HInv R s) : HInv R (s.handleCEA k) := by
  cases hf : s.fired with
  | true => rw [handleCEA_fired h.once hf]; exact h
  | false =>
    obtain ⟨_, hb, hc, hm⟩ | ⟨hf', _⟩ | ⟨hf', _⟩ := h.errc
    · cases k with
      | failing =>
        rw [handleCEA_failing hf hc (by rw [hb]; exact h.cap), hb]
        exact { h with errc := .inr (.inl ⟨rfl, rfl, hc, hm⟩) }
      | success =>
        rw [handleCEA_success hf hc]
        exact { h with errc := .inr (.inr ⟨rfl, hb, rfl⟩), okMeta := fun _ => rfl, closedWhy := fun _ => .inl rfl }
    · cases hf.symm.trans hf'
    · cases hf.symm.trans hf'

theorem HInv_step (h : HInv R s) (hs : s.step e = some s') : HInv R s' := by
  have l := h.loop
  have ⟨le1, le2⟩ := l.cersLe
  revert hs
  fun_cases HS.step s e <;> rintro ⟨⟩
  next g => -- writeOk
    rw [g.1] at l
    exact { h with loop := ⟨congrArg (· + 1) l.1, l.2⟩, okMeta := nofun }
  next => -- writeFail
    exact { h with loop := ⟨le1, le2, rfl⟩, okMeta := nofun, closedWhy := fun _ => .inr rfl }
  next g r => -- timer, budget left
    rw [g] at l
    exact { h with loop := ⟨l.1, congrArg (· + 1) l.2.1, Nat.le_of_lt_succ r, l.2.2.2⟩, okMeta := nofun }
  next g r => -- timer, last
    exact { h with loop := ⟨le1, Nat.le_succ_of_le le2, rfl⟩, okMeta := nofun, closedWhy := fun _ => .inr rfl }
  next g b rest hb => -- takeErrc: an error is waiting, `errc` is in its second state
    obtain ⟨_, hb', _⟩ | ⟨hf, hb', hc, _⟩ | ⟨_, hb', _⟩ := h.errc <;> rw [hb] at hb' <;> cases hb'
    simp only [h.noBlock, hc, Bool.false_eq_true, if_false]
    exact { h with errc := .inr (.inr ⟨hf, rfl, rfl⟩), loop := ⟨le1, le2, rfl⟩, noBlock := rfl, okMeta := nofun,
                   closedWhy := fun _ => .inr rfl }
  next g hb hp => exact absurd (h.noBlock ▸ hp) nofun -- takeErrc from a handler blocked on `errc`: there is none
  next g hb hp hc => -- takeErrc: `errc` is closed and the transport is not, so the handler closed it, on a success
    rw [g] at l
    have m := (h.closedWhy hc).resolve_right (by rw [l.2.2.2]; nofun)
    exact { h with loop := ⟨le1, le2, l.2.2.2⟩, okMeta := fun _ => m }
  next => exact HInv_handleCEA _ h -- cea
  next => exact HInv_handleCEA _ h -- leftover
  next => exact { h with } -- peerClose

theorem HInv_run : ∀ (es : List HEv) (s s' : HS), HInv R s → s.run es = some s' → HInv R s' :=
  HS.run_inv HInv_step

/-- with a once-only CEA handler and a buffered `errc`, every state the handshake reaches satisfies `HInv` -/
theorem HInv_reach {R cap : Nat} {wd : Bool} (hc : 1 ≤ cap) {es : List HEv} {s : HS}
    (h : (HS.init R cap true wd).run es = some s) : HInv R s :=
  HInv_run es _ s (HInv_init R cap wd hc) h

/-- a dial that has returned a connection: the peer's metadata is stored and the transport is open -/
theorem HInv.ok (h : HInv R s) (hp : s.pc = .done .ok) : s.hasMeta = true ∧ s.libClosed = false := by
  have l := h.loop
  rw [hp] at l
  exact ⟨h.okMeta hp, l.2.2⟩

theorem HInv.metaFired (h : HInv R s) (hm : s.hasMeta = true) : s.fired = true ∧ s.errcClosed = true := by
  obtain ⟨_, _, _, m⟩ | ⟨_, _, _, m⟩ | ⟨f, _, c⟩ := h.errc
  · rw [hm] at m; cases m
  · rw [hm] at m; cases m
  · exact ⟨f, c⟩

end

section
variable {s s' : WD} {e : WdEv}

theorem WD.run_inv {P : WD → Prop} (hstep : ∀ {s e s'}, P s → s.step e = some s' → P s') :
    ∀ es s s', P s → s.run es = some s' → P s' :=
  run_invariant (fun _ => rfl) (fun s e _ => by rw [WD.run]; cases s.step e <;> rfl) hstep

theorem WD.step_cfg (hs : s.step e = some s') : s'.R = s.R ∧ s'.cap = s.cap ∧ s'.drain = s.drain := by
  revert hs
  fun_cases WD.step s e <;> rintro ⟨⟩ <;> exact ⟨rfl, rfl, rfl⟩

theorem WD.run_cfg {es : List WdEv} {s s' : WD} (hr : s.run es = some s') :
    s'.R = s.R ∧ s'.cap = s.cap ∧ s'.drain = s.drain :=
  WD.run_inv (P := fun t => t.R = s.R ∧ t.cap = s.cap ∧ t.drain = s.drain)
    (fun h hs => let ⟨a, b, c⟩ := WD.step_cfg hs; ⟨a.trans h.1, b.trans h.2.1, c.trans h.2.2⟩)
    es s s' ⟨rfl, rfl, rfl⟩ hr

/-- The clause that carries the argument is `ans`: an answer handled during the current `dwr()` call is still
    waiting in `dwac` (this is where `cap ≥ 1` is needed), so the retransmission timer is not enabled while
    it waits, and the watchdog closes a connection only unanswered (`closed`). `ansW0` is there because
    `wdTimer` resets `answered`. -/
structure WdInv (s : WD) : Prop where
  cfg : 1 ≤ s.cap
  wr : ∀ i, s.pc = .writing i → s.cycleDwrs = i ∧ s.cycleTimers = i ∧ i < s.R + 1
  sel : ∀ i, s.pc = .selecting i → s.cycleDwrs = i + 1 ∧ s.cycleTimers = i ∧ i < s.R + 1
  ans : s.answered = true → (∃ i, s.pc = .writing i ∨ s.pc = .selecting i) → 1 ≤ s.dwac
  ansW0 : s.pc = .writing 0 → s.answered = false
  closed : s.closedByWD = true → s.cycleDwrs = s.R + 1 ∧ s.cycleTimers = s.R + 1 ∧ s.answeredAtClose = false ∧
      s.gone = true ∧ (s.pc = .sleeping ∨ s.pc = .stopped)
  le : s.cycleDwrs ≤ s.R + 1
  dwacLe : s.dwac ≤ s.cap

theorem WdInv_init (R cap : Nat) (dr : Bool) (hc : 1 ≤ cap) : WdInv (WD.init R cap dr) :=
  ⟨hc, nofun, nofun, nofun, fun _ => rfl, nofun, Nat.zero_le _, Nat.zero_le _⟩

/-- inside a `dwr()` call the watchdog has not closed the connection (stated as an elimination, to fill the
    `closed` clause of the next state directly) -/
theorem WdInv.inCall (h : WdInv s) {q : Prop} (hp : s.pc ≠ .sleeping ∧ s.pc ≠ .stopped) (c : s.closedByWD = true) : q :=
  (h.closed c).2.2.2.2.elim (absurd · hp.1) (absurd · hp.2)

/-- `dwac` after the non-blocking send of `handleDWA` -/
theorem dwac_send {d cap : Nat} (hc : 1 ≤ cap) (hd : d ≤ cap) :
    1 ≤ (if d < cap then d + 1 else d) ∧ (if d < cap then d + 1 else d) ≤ cap := by
  split <;> omega

/-- leaving a `dwr()` call, or the watchdog altogether: every clause about the call holds vacuously -/
theorem WdInv.idle (h : WdInv s) {p : WdPc} (hp : p = .sleeping ∨ p = .stopped) : WdInv { s with pc := p } := by
  have cl (c : s.closedByWD = true) : _ ∧ _ ∧ _ ∧ _ ∧ (p = .sleeping ∨ p = .stopped) :=
    let ⟨a, b, c, d, _⟩ := h.closed c; ⟨a, b, c, d, hp⟩
  rcases hp with rfl | rfl <;>
    exact { h with wr := nofun, sel := nofun, ans := fun _ ⟨_, hi⟩ => hi.elim nofun nofun, ansW0 := nofun, closed := cl }

theorem WdInv_step (h : WdInv s) (hs : s.step e = some s') : WdInv s' := by
  revert hs
  fun_cases WD.step s e <;> rintro ⟨⟩
  next g => -- wdTimer
    exact { h with
      wr := fun i hi => by cases hi; exact ⟨rfl, rfl, Nat.succ_pos _⟩
      sel := nofun, ans := nofun, ansW0 := fun _ => rfl
      closed := fun c => absurd (h.closed c).2.2.2.1 g.2
      le := Nat.zero_le _
      dwacLe := by have := h.dwacLe; dsimp only; split <;> omega }
  next => exact h.idle (.inr rfl) -- wdStop
  next i hp _ => -- writeOk
    have ⟨a, b⟩ := h.wr i hp
    exact { h with
      wr := nofun, ansW0 := nofun
      sel := fun j hj => by cases hj; exact ⟨congrArg (· + 1) a, b⟩
      ans := fun c _ => h.ans c ⟨i, .inl hp⟩
      closed := h.inCall (by rw [hp]; exact ⟨nofun, nofun⟩)
      le := by dsimp only; omega }
  next => exact h.idle (.inl rfl) -- writeFail
  next i hp d r' => -- rtTimer, retransmissions left
    have ⟨a, b, r⟩ := h.sel i hp
    exact { h with
      sel := nofun, ansW0 := nofun
      wr := fun j hj => by cases hj; exact ⟨a, congrArg (· + 1) b, r'⟩
      ans := fun c _ => h.ans c ⟨i, .inr hp⟩
      closed := h.inCall (by rw [hp]; exact ⟨nofun, nofun⟩) }
  next i hp d r' => -- rtTimer, the last one: the watchdog closes the connection
    have ⟨a, b, r⟩ := h.sel i hp
    -- an answer would be waiting in `dwac`, and then this branch is not enabled
    have na : s.answered = false := by
      cases ha : s.answered
      · rfl
      · exact absurd (h.ans ha ⟨i, .inr hp⟩) (by omega)
    exact { h with
      wr := nofun, sel := nofun, ansW0 := nofun, ans := fun _ ⟨_, hi⟩ => hi.elim nofun nofun
      closed := fun _ => ⟨by dsimp only; omega, by dsimp only; omega, na, rfl, .inl rfl⟩ }
  next => -- ack
    exact { h.idle (.inl rfl) with ans := fun _ ⟨_, hi⟩ => hi.elim nofun nofun
                                   dwacLe := Nat.le_trans (Nat.sub_le _ _) h.dwacLe }
  next _ inCycle => -- dwaOk
    exact { h with
      ans := fun _ _ => (dwac_send h.cfg h.dwacLe).1
      dwacLe := (dwac_send h.cfg h.dwacLe).2
      ansW0 := fun hp => by dsimp only at hp ⊢; rw [h.ansW0 hp]; simp only [inCycle, hp]; rfl }
  next _ i hp c => exact absurd h.cfg (by omega) -- dwaOkWaiting on an unbuffered `dwac`
  next _ i hp _ => -- dwaOkWaiting
    exact { h with
      ans := fun _ _ => (dwac_send h.cfg h.dwacLe).1
      dwacLe := (dwac_send h.cfg h.dwacLe).2
      ansW0 := fun hw => by rw [hp] at hw; cases hw }
  next => exact h -- dwaFail
  next => -- disconnect
    exact { h with closed := fun c => let ⟨a, b, c, _, d⟩ := h.closed c; ⟨a, b, c, rfl, d⟩ }

theorem WdInv_run : ∀ (es : List WdEv) (s s' : WD), WdInv s → s.run es = some s' → WdInv s' :=
  WD.run_inv WdInv_step

end

/-- with a buffered `dwac`, every state the watchdog reaches satisfies `WdInv`, and the configuration it started
    with is still there -/
theorem WdInv_reach {R cap : Nat} {dr : Bool} (hc : 1 ≤ cap) {es : List WdEv} {s : WD}
    (h : (WD.init R cap dr).run es = some s) : WdInv s ∧ s.R = R ∧ s.cap = cap ∧ s.drain = dr :=
  ⟨WdInv_run es _ s (WdInv_init R cap dr hc) h, WD.run_cfg h⟩

def silentRounds (n : Nat) : List WdEv := (List.replicate n [WdEv.writeOk, WdEv.rtTimer]).flatten

/-- a peer that never answers: from round `i` of a dwr() call, `R + 1 - i` rounds of
    (write, timer expiry) follow and the last expiry closes the connection -/
theorem silent_run : ∀ (n : Nat) (s : WD) (i : Nat), s.pc = .writing i → s.dwac = 0 → s.gone = false →
    i + n = s.R + 1 → 0 < n →
    ∃ s', s.run (silentRounds n) = some s' ∧ s'.closedByWD = true ∧ s'.cycleDwrs = s.cycleDwrs + n ∧
      s'.cycleTimers = s.cycleTimers + n ∧ s'.pc = .sleeping
  | 0, _, _, _, _, _, _, hn => absurd hn (Nat.lt_irrefl 0)
  | n+1, s, i, hp, hd, hg, hin, _ => by
    -- one round: the DWR is written, then the retransmission timer expires
    have h1 : s.step .writeOk = some { s with pc := .selecting i, cycleDwrs := s.cycleDwrs + 1 } := by
      simp only [WD.step, hp, hg, Bool.false_eq_true, if_false]
    have h2 : ({ s with pc := .selecting i, cycleDwrs := s.cycleDwrs + 1 } : WD).step .rtTimer =
        if i + 1 < s.R + 1 then
          some { s with pc := .writing (i + 1), cycleDwrs := s.cycleDwrs + 1, cycleTimers := s.cycleTimers + 1 }
        else some { s with pc := .sleeping, cycleDwrs := s.cycleDwrs + 1, cycleTimers := s.cycleTimers + 1,
                           closedByWD := true, gone := true, answeredAtClose := s.answered } := by
      simp only [WD.step, hd, Nat.lt_irrefl, if_false]
    have e : silentRounds (n + 1) = .writeOk :: .rtTimer :: silentRounds n := rfl
    simp only [e, WD.run, h1, h2]
    rcases Nat.eq_zero_or_pos n with rfl | hn
    · rw [if_neg (by omega)]; exact ⟨_, rfl, rfl, rfl, rfl, rfl⟩
    · rw [if_pos (by omega)]
      obtain ⟨s', r1, r2, r3, r4, r5⟩ := silent_run n
        { s with pc := .writing (i + 1), cycleDwrs := s.cycleDwrs + 1, cycleTimers := s.cycleTimers + 1 } (i + 1)
        rfl hd hg (by dsimp only; omega) hn
      exact ⟨s', r1, r2, r3.trans (Nat.add_right_comm ..), r4.trans (Nat.add_right_comm ..), r5⟩

end DV
