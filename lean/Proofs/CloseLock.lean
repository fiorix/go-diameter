import Model.CloseLock
import Proofs.Run
/-! A close that takes no lock is never held up, and releases the stuck writer. -/
namespace DV

/-- Without the lock the closer never holds it: only `closeLock` sets `lockByCloser`, and it is not enabled. -/
theorem CL_noLock_step {s s' : CLState} {e : CLEv} (h : s.lockByCloser = false) (hs : s.step false e = some s') :
    s'.lockByCloser = false := by
  revert hs
  fun_cases CLState.step false s e <;> rintro ⟨⟩
  next => exact h -- write
  next => exact h -- acquire
  next => exact h -- peerStops
  next => exact h -- xferDone
  next => exact h -- closeCall
  next g => exact absurd g.1 nofun -- closeLock
  next => rfl -- closeDo
  next => exact h -- writeFails

theorem CL_noLock_run : ∀ (es : List CLEv) (s s' : CLState), s.lockByCloser = false → CLState.run false s es = some s' →
    s'.lockByCloser = false :=
  run_invariant (fun _ => rfl) (fun s e _ => by rw [CLState.run]; cases s.step false e <;> rfl)
    CL_noLock_step

/-- with `closeTakesLock = false`, the source's value: in EVERY state, a requested close that has not happened
    yet can happen now - it waits for nothing -/
theorem CL_close_enabled (s : CLState) (hr : s.closeRequested = true) (hc : s.closed = false) :
    ∃ s', s.step false .closeDo = some s' ∧ s'.closed = true := by
  simp [CLState.step, hr, hc]

/-- once closed, a writer stuck in the transport can only fail, does, and the mutex is free again -/
theorem CL_writer_released (s : CLState) (hw : s.writer = .inTransport) (hc : s.closed = true) :
    s.step false .xferDone = none ∧
    ∃ s', s.step false .writeFails = some s' ∧ s'.writer = .failed ∧ s'.lockHeld = false := by
  simp [CLState.step, hw, hc]

end DV
