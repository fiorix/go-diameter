import Model.Codec
import Spec.Frame
import Proofs.Leaf
/-!
  The AVP header as `AVP.DecodeFromBytes` reads it (`avpCode` .. `payloadOf`, `hdrOk`), and the
  decoder in those terms: with an acceptable header it is `decodePayload` on the payload extent,
  otherwise an error. Every slice is inside bounds on every path, so nothing panics.
-/
namespace DV

theorem lenL_append : ∀ (xs ys : List AVP), lenL (xs ++ ys) = lenL xs + lenL ys
  | [], ys => by simp [lenL]
  | x :: r, ys => by simp [lenL, lenL_append r ys, Nat.add_assoc]

/-- forget the message of an error (errors are compared by class only) -/
def Res.cls : Res α → Res α
  | .err _ => .err ""
  | r => r

@[simp] theorem Res.cls_ok (a : α) : (Res.ok a : Res α).cls = .ok a := rfl
@[simp] theorem Res.cls_err (e : String) : (Res.err e : Res α).cls = .err "" := rfl
@[simp] theorem Res.cls_panic (e : String) : (Res.panic e : Res α).cls = .panic e := rfl

theorem slice_ok (b : Bytes) (lo hi : Nat) (h1 : lo ≤ hi) (h2 : hi ≤ b.length) :
    slice b lo hi = .ok ((b.drop lo).take (hi - lo)) :=
  if_pos ⟨h1, h2⟩

theorem sliceFrom_ok (b : Bytes) (lo : Nat) (h : lo ≤ b.length) : sliceFrom b lo = .ok (b.drop lo) :=
  if_pos h

theorem take_drop_take (l : Bytes) (n a k : Nat) (h : a + k ≤ n) :
    ((l.take n).drop a).take k = (l.drop a).take k := by
  rw [List.drop_take, List.take_take, Nat.min_eq_left (Nat.le_sub_of_add_le' h)]

def avpCode (data : Bytes) : Nat := rd (data.take 4)
def avpFlags (data : Bytes) : Nat := (data.getD 4 0).toNat
def avpLen (data : Bytes) : Nat := rd ((data.drop 5).take 3)
def avpVendor (data : Bytes) : Nat := if hasV (avpFlags data) then rd ((data.drop 8).take 4) else 0
/-- the payload extent handed to the data decoder -/
def payloadOf (data : Bytes) : Bytes := (data.take (avpLen data)).drop (hdrLen (avpFlags data))

/-- the Length field covers the header and stays inside the container -/
def hdrOk (data : Bytes) : Prop :=
  8 ≤ data.length ∧ hdrLen (avpFlags data) ≤ avpLen data ∧ avpLen data ≤ data.length

instance (data : Bytes) : Decidable (hdrOk data) := by unfold hdrOk; infer_instance

theorem hdrOk.hdr_le_len {data : Bytes} (h : hdrOk data) : hdrLen (avpFlags data) ≤ avpLen data := h.2.1
theorem hdrOk.len_le {data : Bytes} (h : hdrOk data) : avpLen data ≤ data.length := h.2.2

theorem hdrLen_cases (f : Nat) : hdrLen f = 8 ∨ hdrLen f = 12 := by
  unfold hdrLen; split <;> simp

theorem hdrLen_mod4 (f : Nat) : hdrLen f % 4 = 0 := by
  unfold hdrLen; split <;> rfl

theorem avpFlags_lt (data : Bytes) : avpFlags data < 256 := (data.getD 4 0).toNat_lt

theorem payloadOf_length {data : Bytes} (h : hdrOk data) :
    (payloadOf data).length = avpLen data - hdrLen (avpFlags data) := by
  rw [payloadOf, List.length_drop, List.length_take, Nat.min_eq_left h.len_le]

/-! The header as `AVP.SerializeTo` writes it. -/

def hdrBytes (c f n v : Nat) : Bytes :=
  be 4 c ++ [UInt8.ofNat f] ++ be 3 n ++ (if hasV f then be 4 v else [])

theorem hdrBytes_length (c f n v : Nat) : (hdrBytes c f n v).length = hdrLen f := by
  unfold hdrBytes hdrLen; split <;> simp

theorem AVP.enc_hdr (c f l v : Nat) (d : Val) :
    (AVP.mk c f l v d).enc = hdrBytes c f (hdrLen f + d.len) v ++ (d.ser ++ zeros d.padding) := by
  cases d <;> exact List.append_assoc ..

theorem AVP.enc_length (c f l v : Nat) {d : Val} (h : d.ser.length = d.len) :
    (AVP.mk c f l v d).enc.length = (AVP.mk c f l v d).len := by
  rw [AVP.enc_hdr, AVP.len_eq]
  simp [hdrBytes_length, h, zeros, Nat.add_assoc]

/-- the written header with its fields apart: `drop`, `take`, `getD` at the fixed offsets then reduce by evaluation -/
theorem hdrBytes_append (c f n v : Nat) (r : Bytes) : hdrBytes c f n v ++ r =
    be 4 c ++ UInt8.ofNat f :: (be 3 n ++ ((if hasV f then be 4 v else []) ++ r)) := by
  simp only [hdrBytes, List.append_assoc, List.cons_append, List.nil_append]

theorem avpCode_hdrBytes {c : Nat} (f n v : Nat) (r : Bytes) (h : c < 4294967296) :
    avpCode (hdrBytes c f n v ++ r) = c := by
  rw [avpCode, hdrBytes_append, List.take_left' (be_length 4 c), rd_be_of_lt h]
theorem avpFlags_hdrBytes {f : Nat} (c n v : Nat) (r : Bytes) (h : f < 256) :
    avpFlags (hdrBytes c f n v ++ r) = f := by
  rw [avpFlags, hdrBytes_append]
  exact UInt8.toNat_ofNat_of_lt' h
theorem avpLen_hdrBytes {n : Nat} (c f v : Nat) (r : Bytes) (h : n < 16777216) :
    avpLen (hdrBytes c f n v ++ r) = n := by
  rw [avpLen, hdrBytes_append]
  exact (congrArg rd (List.take_left' (be_length 3 n))).trans (rd_be_of_lt h)
theorem avpVendor_hdrBytes {f v : Nat} (c n : Nat) (r : Bytes) (hf : f < 256) (h : v < 4294967296)
    (hvz : hasV f = true ∨ v = 0) : avpVendor (hdrBytes c f n v ++ r) = v := by
  rw [avpVendor, avpFlags_hdrBytes c n v r hf]
  split
  next hv =>
    rw [hdrBytes_append, if_pos hv]
    exact (congrArg rd (List.take_left' (be_length 4 v))).trans (rd_be_of_lt h)
  next hv => exact (hvz.resolve_left hv).symm

theorem decodePayload_unfold (ty : Nat → Nat → Nat) (fuel code flags length vendor : Nat) (payload : Bytes) :
    decodePayload ty fuel code flags length vendor payload =
      if ty code vendor = T.grouped then
        (decodeAVPs ty fuel payload).mapR (fun as => AVP.mk code flags length vendor (.group as))
      else
        (decodeLeaf (ty code vendor) payload).mapR (fun v => AVP.mk code flags length vendor v) := by
  rw [decodePayload, decodePayloadWith]

theorem decodeAVPs_zero (ty : Nat → Nat → Nat) (b : Bytes) :
    decodeAVPs ty 0 b = if b.isEmpty then .ok [] else .err "fuel" := by
  rw [decodeAVPs]

theorem decodeAVPs_succ (ty : Nat → Nat → Nat) (fuel : Nat) (b : Bytes) :
    decodeAVPs ty (fuel+1) b =
      if b.isEmpty then .ok [] else
      (decodeAVP ty fuel b).bindR (fun a =>
        (decodeAVPs ty fuel (b.drop (pad4 a.length))).mapR (fun r => a :: r)) := by
  rw [decodeAVPs]

theorem decodeAVP_zero (ty : Nat → Nat → Nat) (b : Bytes) : decodeAVP ty 0 b = .err "fuel" := by
  rw [decodeAVP]

/-- `decodeAVP` without its slicing primitives: the one walk through its guards -/
theorem decodeAVP_cases (ty : Nat → Nat → Nat) (fuel : Nat) (data : Bytes) :
    (hdrOk data ∧ decodeAVP ty (fuel+1) data = decodePayload ty fuel (avpCode data) (avpFlags data)
      (avpLen data) (avpVendor data) (payloadOf data)) ∨
    (¬ hdrOk data ∧ ∃ e, decodeAVP ty (fuel+1) data = .err e) := by
  unfold hdrOk decodeAVP decodePayload payloadOf avpVendor avpCode avpFlags avpLen hdrLen
  generalize (data.getD 4 0).toNat = flags
  generalize rd ((data.drop 5).take 3) = length
  by_cases h1 : data.length < 8
  · exact .inr ⟨by omega, _, if_pos h1⟩
  by_cases h2 : data.length < length
  · exact .inr ⟨by omega, _, by rw [if_neg h1, if_pos h2]⟩
  have hlen : (data.take length).length = length := List.length_take_of_le (Nat.le_of_not_lt h2)
  simp only [if_neg h1, if_neg h2, hlen]
  by_cases h3 : length < 8
  · exact .inr ⟨by split <;> omega, _, if_pos h3⟩
  by_cases hv : hasV flags = true
  · simp only [hv, if_true]
    by_cases h4 : length < 12
    · exact .inr ⟨by omega, _, by rw [if_neg h3, if_pos h4]⟩
    · refine .inl ⟨by omega, ?_⟩
      rw [if_neg h3, if_neg h4, slice_ok _ 8 12 (by omega) (by omega), sliceFrom_ok _ 12 (by omega),
        take_drop_take _ _ 8 4 (by omega)]
  · simp only [hv, Bool.false_eq_true, if_false]
    exact .inl ⟨by omega, by rw [if_neg h3, sliceFrom_ok _ 8 (by omega)]⟩

theorem decodeAVP_of_hdrOk (ty : Nat → Nat → Nat) (fuel : Nat) {data : Bytes} (h : hdrOk data) :
    decodeAVP ty (fuel+1) data = decodePayload ty fuel (avpCode data) (avpFlags data) (avpLen data)
      (avpVendor data) (payloadOf data) :=
  (decodeAVP_cases ty fuel data).elim (·.2) (absurd h ·.1)

theorem decodeAVP_of_not_hdrOk (ty : Nat → Nat → Nat) (fuel : Nat) {data : Bytes} (h : ¬ hdrOk data) :
    ∃ e, decodeAVP ty (fuel+1) data = .err e :=
  (decodeAVP_cases ty fuel data).elim (absurd ·.1 h) (·.2)

theorem hdrOk_of_decodeAVP_ok {ty : Nat → Nat → Nat} {fuel : Nat} {data : Bytes} {a : AVP}
    (h : decodeAVP ty (fuel+1) data = .ok a) : hdrOk data :=
  (decodeAVP_cases ty fuel data).elim (·.1) fun ⟨_, _, he⟩ => nomatch he.symm.trans h

theorem take_drop_mid {H S R : Bytes} {n k : Nat} (hn : H.length = k) (hm : n = k + S.length) :
    ((H ++ (S ++ R)).take n).drop k = S := by
  subst hn hm
  rw [← List.append_assoc, List.take_left' (by simp), List.drop_left]

/-- the decoder on a written header, `pay` as the payload the Length field covers, and anything after it -/
theorem decodeAVP_hdrBytes (ty : Nat → Nat → Nat) (fuel : Nat) {c f n v : Nat} (hc : c < 4294967296)
    (hf : f < 256) (hn : n < 16777216) (hv : v < 4294967296) (hvz : hasV f = true ∨ v = 0)
    (pay rest : Bytes) (hp : n = hdrLen f + pay.length) :
    decodeAVP ty (fuel+1) (hdrBytes c f n v ++ (pay ++ rest)) = decodePayload ty fuel c f n v pay := by
  have eF := avpFlags_hdrBytes c n v (pay ++ rest) hf
  have eL := avpLen_hdrBytes c f v (pay ++ rest) hn
  have hk : hdrOk (hdrBytes c f n v ++ (pay ++ rest)) := by
    have := hdrLen_cases f
    rw [hdrOk, eF, eL, List.length_append, List.length_append, hdrBytes_length]; omega
  rw [decodeAVP_of_hdrOk ty fuel hk, payloadOf, avpCode_hdrBytes f n v _ hc, eF, eL,
    avpVendor_hdrBytes c n _ hf hv hvz, take_drop_mid (hdrBytes_length ..) hp]

/-- C03 (a), the decoder half: no path through the AVP decoder panics. -/
theorem decode_noPanic (ty : Nat → Nat → Nat) : ∀ fuel : Nat,
    (∀ data, (decodeAVP ty fuel data).isPanic = false) ∧
    (∀ b, (decodeAVPs ty fuel b).isPanic = false)
  | 0 => ⟨fun _ => rfl, fun _ => by rw [decodeAVPs_zero]; split <;> rfl⟩
  | fuel+1 => by
    have ih := decode_noPanic ty fuel
    refine ⟨fun data => ?_, fun b => ?_⟩
    · rcases decodeAVP_cases ty fuel data with ⟨-, h⟩ | ⟨-, e, h⟩
      · rw [h, decodePayload_unfold]
        split <;> rw [Res.isPanic_mapR]
        · exact ih.2 _
        · exact decodeLeaf_noPanic _ _
      · rw [h]; rfl
    · rw [decodeAVPs_succ]
      split
      · rfl
      · exact Res.isPanic_bindR (ih.1 b) fun a => by rw [Res.isPanic_mapR]; exact ih.2 _

end DV
