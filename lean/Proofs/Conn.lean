import Model.Conn
import Proofs.Run
/-!
  The control invariant of the connection LTS (`Model.Conn`), for every event sequence:
  reader / copier / channel / flags. The step lemma is written as the header of `Proofs.Run` describes.
-/
namespace DV

/-- The properties read `closes`, `goneChan`, `chanGone`, `goneTerm` (C14), `act`, `maxAct` (C08) and `rep` (C15).
    The other clauses make these inductive: `srcCop`, `copW`, `blk`, `pend`, `pdata` tie the reader's source, the
    copier and the pipe together; `tfail` is what lets `goneTerm` survive the copier's exit after a timeout;
    `exGone`, `copGone`, `pipeR`, `exPipe`, `cEnd` say what an ended reader or copier leaves behind, for
    `CInv_quiet`. -/
structure CInv (d : DictFn) (s : CN) : Prop where
  srcCop : s.src = .rwc ↔ s.copier = .notStarted
  copW : s.copier = .exited ↔ s.pipeW = true
  blk : ∀ r, s.reader = .blocked r → r = s.src ∧ nextMsg d s.rbuf = .need
  chanNone : s.chan = .none → s.src = .rwc
  pend : s.pending = true → s.chan = .open ∧ s.src = .rwc ∧ s.reader ≠ .exited
  goneChan : s.gone = true → s.chan ≠ .open
  chanGone : s.chan = .closed → s.gone = true
  exGone : s.reader = .exited → s.gone = true ∧ s.closed = true
  copGone : s.copier = .exited → s.gone = true
  closes : s.closes = if s.chan = .closed then 1 else 0
  goneTerm : s.gone = true → s.terminated = true
  pipeR : s.pipeR = true → s.reader = .exited
  exPipe : s.reader = .exited → s.src = .pipe → s.pipeR = true
  cEnd : s.cEnd.isSome = true → (s.rerr || s.eof) = true
  tfail : s.tfail = true → s.reader = .exited ∨ s.copier = .exited
  act : s.active = if s.reader = .inHandler then 1 else 0
  maxAct : s.maxActive ≤ 1
  rep : s.reports ≤ 1 ∧ (s.reports = 1 → s.reader = .exited)
  pdata : s.pipeData ≠ [] → s.copier = .writing

theorem CInv_init (d : DictFn) (m c : Bool) : CInv d { multi := m, coal := c } := by
  constructor <;> simp [CN.terminated]

theorem flag_count {p : Prop} [Decidable p] {n : Nat} (h : n = if p then 1 else 0) : n ≤ 1 ∧ (n = 1 ↔ p) := by
  subst h
  split
  next hp => exact ⟨Nat.le_refl 1, fun _ => hp, fun _ => rfl⟩
  next hp => exact ⟨Nat.zero_le 1, nofun, fun c => absurd c hp⟩

theorem CN.terminated_iff {s : CN} : s.terminated = true ↔
    s.closed = true ∨ s.eof = true ∨ s.rerr = true ∨ s.tfail = true ∨ s.reader = .exited := by
  simp [CN.terminated, or_assoc]

theorem CN.terminated_of_end {s : CN} (h : (s.rerr || s.eof) = true) : s.terminated = true := by
  cases hr : s.rerr <;> simp_all [CN.terminated]

/-- `notifyClientGone` in closed form: it assigns `gone`, `chan` and `closes` and nothing else, so an invariant
    that reads none of them is carried over by `{ h with }`, and any other field is read off `s` -/
theorem CN.notify_eq (s : CN) : s.notify =
    { s with gone := true, chan := if s.gone then s.chan else if s.chan = .open then .closed else s.chan,
             closes := if s.gone then s.closes else if s.chan = .open then s.closes + 1 else s.closes } := by
  unfold CN.notify
  split
  next hg => rw [← hg]
  next => rfl

/-- `notifyClientGone` sets `gone` and closes an open channel. Where `gone` already rules out an open
    channel and `closes` counts the closed one, its result is known from the final channel alone. -/
theorem CN.notify_elim {P : CN → Prop} {t : CN} (hgc : t.gone = true → t.chan ≠ .open)
    (hcl : t.closes = if t.chan = .closed then 1 else 0)
    (H : ∀ c : Chan, c ≠ .open → (c = .none → t.chan = .none) →
      P { t with gone := true, chan := c, closes := if c = .closed then 1 else 0 }) : P t.notify := by
  fun_cases CN.notify t
  next hg =>
    have := H t.chan (hgc hg) id
    rwa [← hcl, ← hg] at this
  next =>
    cases hch : t.chan <;> simp only [hch, reduceCtorEq, if_false, if_true] at hcl ⊢
    · simpa [hcl] using H .none nofun (fun _ => hch)
    · simpa [hcl] using H .closed nofun nofun
    · simpa [hcl] using H .closed nofun nofun

/-! The fields of `s.terminate r` that the mux lock count (`Proofs.Shared`) and the fault theorems (C15) read. -/
@[simp] theorem CN.terminate_reader (s : CN) (r : Bool) : (s.terminate r).reader = .exited := by simp [CN.terminate, CN.notify_eq]
@[simp] theorem CN.terminate_gone (s : CN) (r : Bool) : (s.terminate r).gone = true := by simp [CN.terminate, CN.notify_eq]
@[simp] theorem CN.terminate_closed (s : CN) (r : Bool) : (s.terminate r).closed = true := by simp [CN.terminate, CN.notify_eq]
@[simp] theorem CN.terminate_active (s : CN) (r : Bool) : (s.terminate r).active = 0 := by simp [CN.terminate, CN.notify_eq]
@[simp] theorem CN.terminate_reports (s : CN) (r : Bool) :
    (s.terminate r).reports = if r then s.reports + 1 else s.reports := by simp [CN.terminate, CN.notify_eq]

/-- One attempt to read ends the loop, blocks, or leaves the reader idle with the transport's first fragment
    (`rEnd` set or not) or the pipe's chunk appended to its buffer. -/
theorem CN.readFrom_elim {P : CN → Prop} (s : CN) (src : RSrc) (term : ∀ r, P (s.terminate r))
    (block : P { s with reader := .blocked src })
    (rwc : src = .rwc → ∀ e, P { s with rbuf := s.rbuf ++ s.inbox.headD [], inbox := s.inbox.tail, reader := .idle, rEnd := e })
    (pipe : src = .pipe → P { s with rbuf := s.rbuf ++ s.pipeData, pipeData := [], reader := .idle }) :
    P (s.readFrom src) := by
  fun_cases CN.readFrom s src
  -- from the transport: its end was buffered, it is closed, a fragment, its end, nothing yet
  · exact term _
  · exact term _
  · exact rwc rfl _
  · exact term _
  · exact block
  -- from the pipe: a chunk, its end, nothing yet
  · exact pipe rfl
  · exact term _
  · exact block

/-- what keeps the reader goroutine from moving -/
theorem CN.readerStep_none (d : DictFn) (s : CN) :
    s.step d .readerStep = none ↔
      s.reader = .inHandler ∨ s.reader = .exited ∨
      (s.reader = .blocked .rwc ∧ s.closed = false ∧ s.inbox = [] ∧ s.rerr = false ∧ s.eof = false) ∨
      (s.reader = .blocked .pipe ∧ s.pipeData = [] ∧ s.pipeW = false) := by
  rw [← Option.isNone_iff_eq_none]
  cases hr : s.reader with
  | idle => cases hn : nextMsg d s.rbuf <;> cases hre : s.rEnd <;> simp [CN.step, hr, hn, hre, apply_ite Option.isNone]
  | blocked src => cases src <;> simp [CN.step, hr, and_assoc]
  | inHandler => simp [CN.step, hr]
  | exited => simp [CN.step, hr]

/-- what keeps the copy goroutine from moving -/
theorem CN.copierStep_none (d : DictFn) (s : CN) :
    s.step d .copierStep = none ↔
      s.copier = .notStarted ∨ s.copier = .exited ∨
      (s.copier = .reading ∧ s.closed = false ∧ s.inbox = [] ∧ s.rerr = false ∧ s.eof = false) ∨
      (s.copier = .writing ∧ s.pipeR = false ∧ s.pipeData ≠ []) := by
  rw [← Option.isNone_iff_eq_none]
  cases hc : s.copier with
  | writing => cases hce : s.cEnd <;> simp [CN.step, hc, hce, apply_ite Option.isNone]
  | _ => simp [CN.step, hc, apply_ite Option.isNone]

theorem CN.quiescent_iff {d : DictFn} {s : CN} :
    s.quiescent d = true ↔ s.step d .readerStep = none ∧ s.step d .copierStep = none := by
  simp [CN.quiescent]

theorem CN.run_inv {d : DictFn} {P : CN → Prop} (hstep : ∀ {s e s'}, P s → s.step d e = some s' → P s') :
    ∀ (es : List CEv) (s s' : CN), P s → s.run d es = some s' → P s' :=
  run_invariant (fun _ => rfl) (fun s e _ => by rw [CN.run]; cases s.step d e <;> rfl) hstep

theorem CPc.running_ne {c : CPc} (h : c = .reading ∨ c = .writing) : c ≠ .notStarted ∧ c ≠ .exited := by
  rcases h with e | e <;> simp [e]

namespace CInv
variable {d : DictFn} {s : CN}

theorem reports_zero (h : CInv d s) (hr : s.reader ≠ .exited) : s.reports = 0 := by
  have h1 := h.rep.1
  have h2 : s.reports ≠ 1 := fun e => hr (h.rep.2 e)
  omega

theorem active_zero (h : CInv d s) (hr : s.reader ≠ .inHandler) : s.active = 0 := by
  rw [h.act, if_neg hr]

theorem pipeData_nil (h : CInv d s) (hc : s.copier ≠ .writing) : s.pipeData = [] :=
  Decidable.by_contra fun e => hc (h.pdata e)

/-- the reader loop ends: `rwc.Close(); sr.stop(); notifyClientGone()`, whatever the timeout flag is set to
    (`tf := s.tfail` is `s.terminate rep`) -/
theorem terminate (h : CInv d s) (hr : s.reader ≠ .exited) (tf rep : Bool) :
    CInv d (CN.terminate { s with tfail := tf } rep) :=
  CN.notify_elim h.goneChan h.closes fun c hco hcn => { h with
    blk := nofun
    chanNone := fun e => h.chanNone (hcn e)
    pend := nofun
    goneChan := fun _ => hco
    chanGone := fun _ => rfl
    exGone := fun _ => ⟨rfl, rfl⟩
    copGone := fun _ => rfl
    closes := rfl
    goneTerm := fun _ => by simp [CN.terminated]
    pipeR := fun _ => rfl
    exPipe := fun _ e => if_pos e
    tfail := fun _ => .inl rfl
    act := rfl
    rep := ⟨by rw [h.reports_zero hr]; cases rep <;> simp, fun _ => rfl⟩ }

/-- the reader moves between states other than `exited` -/
theorem setReader (h : CInv d s) (hr : s.reader ≠ .exited) (r : RPc) (b : Bytes) (a : Nat) (hr' : r ≠ .exited)
    (hb : ∀ x, r = .blocked x → x = s.src ∧ nextMsg d b = .need) (ha : a = if r = .inHandler then 1 else 0) :
    CInv d { s with reader := r, rbuf := b, active := a } :=
  { h with
    blk := hb
    pend := fun e => ⟨(h.pend e).1, (h.pend e).2.1, hr'⟩
    exGone := fun e => absurd e hr'
    goneTerm := fun e => by simpa [CN.terminated, hr, hr'] using h.goneTerm e
    pipeR := fun e => absurd (h.pipeR e) hr
    exPipe := fun e => absurd e hr'
    tfail := fun e => (h.tfail e).elim (absurd · hr) .inr
    act := ha
    rep := ⟨h.rep.1, fun e => absurd (h.rep.2 e) hr⟩ }

/-- `liveSwitchReader.Read` starts the copy goroutine -/
theorem startCopier (h : CInv d s) (hp : s.pending = true) (hr : s.reader = .idle) :
    CInv d { s with pending := false, src := .pipe, copier := .reading } :=
  have hc : s.copier = .notStarted := h.srcCop.1 (h.pend hp).2.1
  { h with
    srcCop := ⟨nofun, nofun⟩
    copW := ⟨nofun, fun e => by simpa [hc] using h.copW.2 e⟩
    blk := fun r e => by simp [hr] at e
    chanNone := fun e => by simp [(h.pend hp).1] at e
    pend := nofun
    copGone := nofun
    exPipe := fun e => by simp [hr] at e
    tfail := fun e => (h.tfail e).imp_right fun e => by simp [hc] at e
    pdata := fun e => absurd (h.pipeData_nil (by simp [hc])) e }

/-- the copy goroutine moves between `reading` and `writing` -/
theorem setCopier (h : CInv d s) (hc : s.copier = .reading ∨ s.copier = .writing) (c : CPc)
    (hc' : c = .reading ∨ c = .writing) (p : Bytes) (hp : p ≠ [] → c = .writing) :
    CInv d { s with copier := c, pipeData := p } :=
  have ⟨hn, hx⟩ := CPc.running_ne hc
  have ⟨hn', hx'⟩ := CPc.running_ne hc'
  { h with
    srcCop := ⟨fun e => absurd (h.srcCop.1 e) hn, fun e => absurd e hn'⟩
    copW := ⟨fun e => absurd e hx', fun e => absurd (h.copW.2 e) hx⟩
    copGone := fun e => absurd e hx'
    tfail := fun e => (h.tfail e).imp_right (absurd · hx)
    pdata := hp }

/-- the copy goroutine ends: `pw.CloseWithError(err); c.notifyClientGone()`. Its callers in `CN.step` set the
    timeout flag or leave it, and clear `pipeData` or leave it empty: hence `tf`, and `pd` with `hpd`. -/
theorem copierExit (h : CInv d s) (hc : s.copier = .reading ∨ s.copier = .writing) (tf pe : Bool) (pd : Bytes)
    (hpd : pd = []) (ht : tf = true ∨ s.terminated = true) :
    CInv d (CN.notify { s with tfail := tf, copier := .exited, pipeW := true, pipeErr := pe, pipeData := pd }) :=
  have ⟨hn, hcx⟩ := CPc.running_ne hc
  have hsrc : s.src ≠ .rwc := fun e => hn (h.srcCop.1 e)
  CN.notify_elim h.goneChan h.closes fun c hco hcn => { h with
    srcCop := ⟨fun e => absurd e hsrc, nofun⟩
    copW := ⟨fun _ => rfl, fun _ => rfl⟩
    chanNone := fun e => h.chanNone (hcn e)
    pend := fun e => absurd (h.pend e).2.1 hsrc
    goneChan := fun _ => hco
    chanGone := fun _ => rfl
    exGone := fun e => ⟨rfl, (h.exGone e).2⟩
    copGone := fun _ => rfl
    closes := rfl
    goneTerm := fun _ => by
      -- if `s` was gone by a timeout alone, that was the reader's: the copier is still running
      have := h.tfail
      rw [CN.terminated_iff] at ht ⊢
      grind
    tfail := fun _ => .inr rfl
    pdata := fun e => absurd hpd e }

/-- a close notifier is requested on a live connection -/
theorem chanOpen (h : CInv d s) (hc : s.chan = .none) (hg : ¬s.gone = true) : CInv d { s with chan := .open } :=
  { h with
    chanNone := nofun
    pend := fun e => by have := (h.pend e).1; simp [hc] at this
    goneChan := fun e => absurd e hg
    chanGone := nofun
    closes := by simp [h.closes, hc] }

end CInv

theorem CInv_notify (d : DictFn) (s : CN) (h : CInv d s) (ht : s.terminated = true) (hp : s.pending = false) : CInv d s.notify :=
  CN.notify_elim h.goneChan h.closes fun c hco hcn => { h with
    chanNone := fun e => h.chanNone (hcn e)
    pend := fun e => by simp [hp] at e
    goneChan := fun _ => hco
    chanGone := fun _ => rfl
    exGone := fun e => ⟨rfl, (h.exGone e).2⟩
    copGone := fun _ => rfl
    closes := rfl
    goneTerm := fun _ => ht }

theorem CInv_readFrom {d : DictFn} {s : CN} {src : RSrc} (h : CInv d s) (hsrc : src = s.src)
    (hrd : s.reader = .idle ∨ s.reader = .blocked src) (hneed : nextMsg d s.rbuf = .need) :
    CInv d (s.readFrom src) := by
  have hne : s.reader ≠ .exited := by rcases hrd with e | e <;> simp [e]
  have hnh : s.reader ≠ .inHandler := by rcases hrd with e | e <;> simp [e]
  have idle (b : Bytes) := h.setReader hne .idle b s.active nofun nofun (h.active_zero hnh)
  exact s.readFrom_elim src (fun _ => h.terminate hne _ _)
    (h.setReader hne (.blocked src) s.rbuf s.active nofun (fun x e => ⟨RPc.blocked.inj e ▸ hsrc, hneed⟩)
      (h.active_zero hnh))
    (fun _ _ => { idle _ with }) (fun _ => { idle _ with pdata := nofun })

theorem CInv_step (d : DictFn) (s s' : CN) (e : CEv) (h : CInv d s) (hs : s.step d e = some s') : CInv d s' := by
  revert hs
  fun_cases CN.step d s e <;> rintro ⟨⟩
  next => exact { h with } -- deliver
  next => exact { h with goneTerm := fun _ => by simp [CN.terminated], cEnd := fun _ => by simp } -- peerEof
  next => exact { h with goneTerm := fun _ => by simp [CN.terminated], cEnd := fun _ => rfl } -- readErr
  next _ hr => exact h.terminate (by simp [hr]) true true -- readTimeout, reader blocked on the transport
  next _ _ hc => -- readTimeout, copier blocked on the transport
    exact h.copierExit (.inl hc) true true _ (h.pipeData_nil (by simp [hc])) (.inl rfl)
  next => -- localClose
    exact { h with goneTerm := fun _ => by simp [CN.terminated], exGone := fun e => ⟨(h.exGone e).1, rfl⟩ }
  next hc hg => -- requestCN after the end: the channel is closed at once
    have hp : s.pending ≠ true := fun e => by have := (h.pend e).1; simp [hc] at this
    exact { h with
      chanNone := nofun
      pend := fun e => absurd e hp
      goneChan := fun _ => nofun
      chanGone := fun _ => hg
      closes := by simp [h.closes, hc] }
  next hc hg hm => exact h.chanOpen hc hg -- requestCN on an association: the channel is opened
  next hc hg hm => -- requestCN on a stream connection: opened, and the reader is to start the copier
    exact { h.chanOpen hc hg with pend := fun _ => ⟨rfl, h.chanNone hc, fun e => hg (h.exGone e).1⟩ }
  next => exact h -- requestCN again
  next hr => exact h.setReader (by simp [hr]) .idle s.rbuf 0 nofun nofun rfl -- handlerReturn
  next hr => exact h.terminate (by simp [hr]) _ _ -- handlerPanic
  next hr m n hn => -- readerStep: a message is handed to a handler
    have ha : s.active = 0 := h.active_zero (by simp [hr])
    exact { h.setReader (by simp [hr]) .inHandler (s.rbuf.drop n) (s.active + 1) nofun nofun (by simp [ha]) with
      maxAct := Nat.max_le.2 ⟨h.maxAct, by simp [ha]⟩ }
  next hr _ => exact h.terminate (by simp [hr]) _ _ -- readerStep: undecodable
  next hr _ _ _ => exact h.terminate (by simp [hr]) _ _ -- readerStep: the buffered end of the transport
  next hr hn hp _ => exact CInv_readFrom (h.startCopier hp hr) rfl (.inl hr) hn -- readerStep: first Read through the pipe
  next hr hn _ _ => exact CInv_readFrom h rfl (.inl hr) hn -- readerStep: a Read
  next _ hr => -- readerStep: the Read in progress returns, from the transport
    exact CInv_readFrom h (h.blk _ hr).1 (.inr hr) (h.blk _ hr).2
  next _ hr => exact CInv_readFrom h (h.blk _ hr).1 (.inr hr) (h.blk _ hr).2 -- ... from the pipe
  next hc hcl => -- copierStep, reading: the transport is closed
    exact h.copierExit (.inl hc) _ _ _ (h.pipeData_nil (by simp [hc])) (.inr (CN.terminated_iff.2 (.inl hcl)))
  next hc _ _ => -- copierStep, reading: a fragment goes into the pipe
    exact { h.setCopier (.inl hc) .writing (.inr rfl) _ fun _ => rfl with
      cEnd := fun e => by split at e <;> simp_all }
  next hc _ _ he => -- copierStep, reading: the transport has ended
    exact h.copierExit (.inl hc) _ _ _ (h.pipeData_nil (by simp [hc])) (.inr (CN.terminated_of_end he))
  next hc hpr => -- copierStep, writing: the reader has closed the pipe
    exact h.copierExit (.inr hc) _ _ _ rfl (.inr (by simp [CN.terminated, h.pipeR hpr]))
  next hc _ hpe e hce => -- copierStep, writing: the pipe is drained and the transport had ended
    exact h.copierExit (.inr hc) _ _ _ (by simpa using hpe) (.inr (CN.terminated_of_end (h.cEnd (by simp [hce]))))
  next hc _ hpe _ => -- copierStep, writing: the pipe is drained
    exact h.setCopier (.inr hc) .reading (.inl rfl) _ (absurd (by simpa using hpe))

theorem CInv_run (d : DictFn) : ∀ (es : List CEv) (s s' : CN), CInv d s → s.run d es = some s' → CInv d s' :=
  CN.run_inv (CInv_step d _ _ _)

/-- a close notifier requested after the reader loop has ended is closed at once -/
theorem CInv.late_request {d : DictFn} {s s' : CN} (h : CInv d s) (hx : s.reader = .exited) (hn : s.chan = .none)
    (hs : s.step d .requestCN = some s') : s'.chan = .closed := by
  simp [CN.step, hn, (h.exGone hx).1] at hs
  subst hs; rfl

/-- in a quiescent state whose connection is gone and whose handler (if any) has returned, the
    reader loop has ended, the close-notify channel - if one was requested - is closed, and the
    copy goroutine was never started or has ended -/
theorem CInv_quiet (d : DictFn) (s : CN) (h : CInv d s) (hq : s.quiescent d = true)
    (ht : s.terminated = true) (hh : s.reader ≠ .inHandler) :
    s.chan ≠ .open ∧ s.reader = .exited ∧ s.gone = true ∧ (s.copier = .notStarted ∨ s.copier = .exited) := by
  rw [CN.quiescent_iff, CN.readerStep_none, CN.copierStep_none] at hq
  rw [CN.terminated_iff] at ht
  -- A reader blocked on a transport that has not ended is gone only by a timeout, which ends whoever
  -- was reading: not this reader, and no copier runs while it reads the transport itself. A reader
  -- blocked on the empty, open pipe has a running copier, which is not blocked writing (the pipe is
  -- empty) and, blocked reading, was not timed out either.
  have hx : s.reader = .exited := by
    have := h.tfail; have := h.srcCop; have := h.copW; have := h.blk
    grind
  have hg := h.exGone hx
  refine ⟨h.goneChan hg.1, hx, hg.1, ?_⟩
  -- the transport is closed, so a copier cannot be blocked reading; nor writing, since the reader
  -- closed its side of the pipe
  have := h.exPipe hx; have := h.srcCop
  cases hsrc : s.src <;> grind

/-- a quiescent, live connection with no handler running has handed over every complete
    message the peer delivered: nothing is stuck in the transport, the pipe or the buffer -/
theorem CInv_nothing_stuck (d : DictFn) (s : CN) (h : CInv d s) (hq : s.quiescent d = true)
    (ht : s.terminated = false) (hh : s.reader ≠ .inHandler) :
    s.inbox = [] ∧ s.pipeData = [] ∧ nextMsg d s.rbuf = .need := by
  rw [CN.quiescent_iff, CN.readerStep_none, CN.copierStep_none] at hq
  have ht := mt (CN.terminated_iff (s := s)).2 (by simp [ht])
  -- the reader is blocked with an incomplete buffer: on the transport (empty; no copier, so nothing in
  -- the pipe), or on the empty pipe, whose copier - neither ended nor writing - is blocked on the
  -- empty transport
  have := h.srcCop; have := h.copW; have := h.blk; have := h.pdata
  grind

end DV
