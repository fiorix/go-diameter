import Proofs.Conn
import Proofs.Split
/-!
  The data side of the connection LTS: bytes delivered = bytes consumed ++
  bytes in flight; messages handed to handlers = the first messages of the reference split.
  Most events assign no field `DInv` reads: `{ h with }` (see `Proofs.Run`) carries it over.
-/
namespace DV
open DV.Spec

/-- `nextMsg` finds a message at the front of the buffer exactly when the reference step does, however
    the stream ends -/
theorem nextMsg_ready_iff {d : DictFn} {b : Bytes} {m : Msg} {n : Nat} (fin : Fin) :
    nextMsg d b = .ready m n ↔ splitStep d b fin = (.msg m, n) := by
  by_cases h20 : 20 ≤ b.length
  · obtain ⟨h, hh⟩ := decodeHeader_take h20
    rw [nextMsg, if_neg (Nat.not_lt.mpr h20), splitStep_header d fin hh, hh]
    dsimp only
    cases d.cmdRules h.app h.cmd with
    | none => simp
    | some r =>
      dsimp only
      split
      · simp
      split
      · simp
      cases decodeBody d h ((b.drop 20).take (h.len - 20)) <;> simp
  · exact iff_of_false (by rw [nextMsg, if_pos (Nat.lt_of_not_le h20)]; nofun) (splitStep_ne_msg (Nat.lt_of_not_le h20))

/-- bytes delivered by the peer and not yet handed over, in order: buffered by bufio, held by
    the close-notifier pipe, still in the transport -/
def CN.rest (s : CN) : Bytes := s.rbuf ++ s.pipeData ++ s.inbox.flatten

structure DInv (d : DictFn) (s : CN) : Prop where
  data : ∃ r, s.sent = s.consumed ++ r ∧ (s.reader ≠ .exited → r = s.rest)
  cut : Cut d s.handed s.consumed

theorem DInv_init (d : DictFn) (m c : Bool) : DInv d { multi := m, coal := c } :=
  ⟨⟨[], by simp [CN.rest]⟩, Cut_nil d⟩

/-- a step that neither delivers nor hands over anything, and keeps the bytes in flight in order.
    For `s' = { s with … }` the equations that hold are `rfl`. -/
theorem DInv_same {d : DictFn} {s s' : CN} (h : DInv d s) (h1 : s'.sent = s.sent) (h2 : s'.consumed = s.consumed)
    (h3 : s'.handed = s.handed) (h4 : s'.reader ≠ .exited → s.reader ≠ .exited ∧ s'.rest = s.rest) : DInv d s' := by
  obtain ⟨⟨r, hr1, hr2⟩, hc⟩ := h
  exact ⟨⟨r, h1 ▸ h2 ▸ hr1, fun hne => (h4 hne).2 ▸ hr2 (h4 hne).1⟩, h3 ▸ h2 ▸ hc⟩

theorem DInv_notify (d : DictFn) (s : CN) (h : DInv d s) : DInv d s.notify := by
  rw [CN.notify_eq]
  exact { h with }

theorem DInv_terminate {d : DictFn} {s : CN} {rep : Bool} (h : DInv d s) : DInv d (s.terminate rep) :=
  DInv_notify d _ (DInv_same h rfl rfl rfl fun e => absurd rfl e)

/-- the bytes in flight stay in order when a Read takes the first fragment -/
theorem flatten_eq_headD (l : List Bytes) : l.flatten = l.headD [] ++ l.tail.flatten := by
  cases l <;> simp

theorem DInv_readFrom {d : DictFn} {s : CN} {src : RSrc} (h : DInv d s) (hpd : src = .rwc → s.pipeData = [])
    (hx : s.reader ≠ .exited) : DInv d (s.readFrom src) :=
  s.readFrom_elim src (fun _ => DInv_terminate h) (DInv_same h rfl rfl rfl fun _ => ⟨hx, rfl⟩)
    (fun e _ => DInv_same h rfl rfl rfl fun _ => ⟨hx, by simp [CN.rest, hpd e, flatten_eq_headD s.inbox]⟩)
    (fun _ => DInv_same h rfl rfl rfl fun _ => ⟨hx, by simp [CN.rest]⟩)

theorem DInv_step (d : DictFn) (s s' : CN) (e : CEv) (h : DInv d s) (hc : CInv d s)
    (hs : s.step d e = some s') : DInv d s' := by
  revert hs
  fun_cases CN.step d s e <;> rintro ⟨⟩
  next b hcond => -- deliver
    obtain ⟨⟨r, hr1, hr2⟩, hcut⟩ := h
    have hne : s.reader ≠ .exited := fun he => by simp [(hc.exGone he).2] at hcond
    exact ⟨⟨r ++ b, by simp [hr1], fun _ => by simp [hr2 hne, CN.rest]⟩, hcut⟩
  next => exact { h with } -- peerEof
  next => exact { h with } -- readErr
  next => exact DInv_terminate { h with } -- readTimeout, reader blocked on the transport
  next => exact DInv_notify d _ { h with } -- readTimeout, copier blocked on the transport
  next => exact { h with } -- localClose
  next => exact { h with } -- requestCN after the end
  next => exact { h with } -- requestCN on an association
  next => exact { h with } -- requestCN on a stream connection
  next => exact h -- requestCN again
  next hr => exact DInv_same h rfl rfl rfl fun _ => ⟨by simp [hr], rfl⟩ -- handlerReturn
  next => exact DInv_terminate h -- handlerPanic
  next hr m n hn => -- readerStep: a message is handed over
    have hne : s.reader ≠ .exited := by simp [hr]
    obtain ⟨⟨r, hr1, hr2⟩, hcut⟩ := h
    obtain ⟨-, hnb, hsp⟩ := splitStep_msg_prefix ((nextMsg_ready_iff .eof).mp hn)
    refine ⟨⟨s.rbuf.drop n ++ s.pipeData ++ s.inbox.flatten, ?_, fun _ => rfl⟩, ?_⟩
    · simp only [hr1, hr2 hne, CN.rest, List.append_assoc]
      rw [← List.append_assoc (s.rbuf.take n), List.take_append_drop]
    · refine Cut_append hcut (Cut_one fun tail fin => ?_)
      rw [List.length_take, Nat.min_eq_left hnb]
      exact hsp tail fin
  next => exact DInv_terminate h -- readerStep: undecodable
  next => exact DInv_terminate h -- readerStep: the buffered end of the transport
  next hr _ _ _ => exact DInv_readFrom { h with } nofun (by simp [hr]) -- readerStep: first Read through the pipe
  next hr _ _ _ => -- readerStep: a Read
    exact DInv_readFrom h (fun e => hc.pipeData_nil (by simp [hc.srcCop.1 e])) (by simp [hr])
  next _ hr => -- readerStep: the Read in progress returns, from the transport
    exact DInv_readFrom h (fun _ => hc.pipeData_nil (by simp [hc.srcCop.1 (hc.blk _ hr).1.symm])) (by simp [hr])
  next _ hr => exact DInv_readFrom h nofun (by simp [hr]) -- ... from the pipe
  next => exact DInv_notify d _ { h with } -- copierStep, reading: the transport is closed
  next hcp _ _ => -- copierStep, reading: a fragment goes into the pipe
    refine DInv_same h rfl rfl rfl fun e => ⟨e, ?_⟩
    simp [CN.rest, hc.pipeData_nil (by simp [hcp]), flatten_eq_headD s.inbox]
  next => exact DInv_notify d _ { h with } -- copierStep, reading: the transport has ended
  next _ hpr => -- copierStep, writing: the reader has closed the pipe
    exact DInv_notify d _ (DInv_same h rfl rfl rfl fun e => absurd (hc.pipeR hpr) e)
  next => exact DInv_notify d _ { h with } -- copierStep, writing: the pipe is drained and the transport had ended
  next => exact { h with } -- copierStep, writing: the pipe is drained

theorem Inv_run (d : DictFn) (es : List CEv) (s s' : CN) (h : CInv d s) (h2 : DInv d s) (hr : s.run d es = some s') :
    CInv d s' ∧ DInv d s' :=
  CN.run_inv (P := fun s => CInv d s ∧ DInv d s)
    (fun h hs => ⟨CInv_step d _ _ _ h.1 hs, DInv_step d _ _ _ h.2 h.1 hs⟩) es s s' ⟨h, h2⟩ hr

/-- every state reachable from a fresh connection of either kind (TCP-like, or a multistream association)
    satisfies both invariants -/
theorem Inv_reachable (d : DictFn) (m c : Bool) (es : List CEv) (s : CN)
    (hr : CN.run d { multi := m, coal := c } es = some s) : CInv d s ∧ DInv d s :=
  Inv_run d es _ s (CInv_init d m c) (DInv_init d m c) hr

theorem Inv_reach (d : DictFn) (c : Bool) (es : List CEv) (s : CN) (hr : CN.run d { coal := c } es = some s) :
    CInv d s ∧ DInv d s :=
  Inv_reachable d false c es s hr

/-- the messages handed over are the first messages of the reference split of what was delivered, and the
    split goes on in the bytes in flight -/
theorem DInv.split_handed {d : DictFn} {s : CN} (h : DInv d s) :
    ∃ rest, s.sent = s.consumed ++ rest ∧ (s.reader ≠ .exited → rest = s.rest) ∧
      ∀ (fin : Fin) (fuel : Nat),
        (split d (s.handed.length + fuel) s.sent fin).1 = s.handed.map MsgRes.msg ++ (split d fuel rest fin).1 := by
  obtain ⟨⟨r, hr1, hr2⟩, hcut⟩ := h
  exact ⟨r, hr1, hr2, fun fin fuel => by rw [hr1, hcut r fin fuel]⟩

end DV
