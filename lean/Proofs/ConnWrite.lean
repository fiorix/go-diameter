import Model.ConnWrite
/-! Every connection owns its writer: a write through connection `k` reaches transport `k` only. -/
namespace DV

/-- without recycling: writer `k` belongs to connection `k` and writes to transport `k`; a
    transport holds only what was written through its own connection -/
structure WInvOwn (S : OwSys) : Prop where
  len : S.target.length = S.conns.length
  wr : ∀ (k : Nat) (c : OwConn), S.conns[k]? = some c → c.writer = k
  tg : ∀ k : Nat, k < S.target.length → S.target.getD k 0 = k
  own : ∀ (j : Nat) (c : OwConn), S.conns[j]? = some c → ∀ p ∈ c.wire, p.1 = j

theorem WInvOwn_init : WInvOwn {} := ⟨rfl, nofun, nofun, nofun⟩

theorem getElem?_set_cases {α : Type} (l : List α) (i j : Nat) (a b : α) (h : (l.set i a)[j]? = some b) :
    (i = j ∧ i < l.length ∧ a = b) ∨ (¬i = j ∧ l[j]? = some b) := by
  rw [List.getElem?_set] at h
  by_cases e : i = j
  · exact .inl ⟨e, Option.ite_some_none_eq_some.1 ((if_pos e).symm.trans h)⟩
  · exact .inr ⟨e, (if_neg e).symm.trans h⟩

theorem getElem?_concat_cases {α : Type} (l : List α) (j : Nat) (a b : α) (h : (l ++ [a])[j]? = some b) :
    l[j]? = some b ∨ (j = l.length ∧ b = a) := by
  rw [List.getElem?_append] at h
  by_cases hj : j < l.length
  · exact .inl ((if_pos hj).symm.trans h)
  · obtain ⟨h0, e⟩ := Option.ite_some_none_eq_some.1 (List.getElem?_singleton ▸ (if_neg hj).symm.trans h)
    exact .inr ⟨Nat.le_antisymm (Nat.le_of_sub_eq_zero h0) (Nat.le_of_not_lt hj), e.symm⟩

section
variable {S : OwSys}

/-- the writer a connection holds writes to that connection's transport -/
theorem WInvOwn.target (h : WInvOwn S) {k : Nat} {c : OwConn} (hk : S.conns[k]? = some c) :
    S.target.getD c.writer 0 = k := by
  rw [h.wr k c hk]
  exact h.tg k (h.len ▸ (List.getElem?_eq_some_iff.1 hk).1)

/-- replacing a connection by one with the same writer and a wire of its own keeps the invariant -/
theorem WInvOwn.set (h : WInvOwn S) {k : Nat} {c c' : OwConn} (hk : S.conns[k]? = some c)
    (hw : c'.writer = c.writer) (ho : ∀ p ∈ c'.wire, p.1 = k) (pool : List Nat) :
    WInvOwn { S with conns := S.conns.set k c', pool := pool } := by
  refine ⟨h.len.trans List.length_set.symm, fun j cj hj => ?_, h.tg, fun j cj hj => ?_⟩ <;>
    rcases getElem?_set_cases _ _ _ _ _ hj with ⟨rfl, _, rfl⟩ | ⟨_, e⟩
  · exact hw.trans (h.wr _ c hk)
  · exact h.wr j cj e
  · exact ho
  · exact h.own j cj e

theorem WInvOwn_step (S : OwSys) (e : OwEv) (h : WInvOwn S) : WInvOwn (S.step false e).1 := by
  -- not by `fun_cases`: it generalises the `false`, a discriminant of `OwSys.step`, and leaves the pooled branch
  cases e <;> dsimp only [OwSys.step]
  case openConn =>
    refine ⟨by rw [List.length_append, List.length_append, h.len]; rfl,
      fun k c hk => ?_, fun k hk => ?_, fun j c hj => ?_⟩
    · rcases getElem?_concat_cases _ _ _ _ hk with e | ⟨rfl, rfl⟩
      · exact h.wr k c e
      · exact h.len
    · rw [List.getD_eq_getElem?_getD]
      rcases Nat.lt_succ_iff_lt_or_eq.1 (List.length_append ▸ hk) with hlt | rfl
      · rw [List.getElem?_append_left hlt, ← List.getD_eq_getElem?_getD]
        exact h.tg k hlt
      · rw [List.getElem?_concat_length]
        exact h.len.symm
    · rcases getElem?_concat_cases _ _ _ _ hj with e | ⟨rfl, rfl⟩
      · exact h.own j c e
      · nofun
  case die k =>
    split
    · exact h
    next c hk =>
      split
      · exact h
      · exact h.set (c' := { c with alive := false }) hk rfl (h.own k c hk) _
  case write k id =>
    split
    · exact h
    next c hk =>
      rw [h.target hk, hk]
      dsimp only
      split
      · refine h.set hk (by rfl) (fun p hp => ?_) _
        rcases List.mem_append.1 hp with hp | hp
        · exact h.own k c hk p hp
        · cases List.mem_singleton.1 hp; rfl
      · exact h

theorem WInvOwn_run (es : List OwEv) (S : OwSys) (h : WInvOwn S) : WInvOwn (S.run false es).1 := by
  induction es generalizing S with
  | nil => exact h
  | cons e es ih => exact ih _ (WInvOwn_step S e h)

end

/-- with the stream handed over together with the bytes, every entry of the log is a write the
    schedule contains, with that write's own stream -/
theorem SW_direct (es : List SWEv) (s : SWState) :
    ∀ p ∈ (s.run true es).log, p ∈ s.log ∨ SWEv.write p.1 p.2 ∈ es := by
  induction es generalizing s with
  | nil => exact fun p hp => .inl hp
  | cons e es ih =>
    intro p hp
    refine (ih (s.step true e) p hp).elim (fun h => ?_) fun h => .inr (List.mem_cons_of_mem _ h)
    -- what the log holds after `e` was there before, or `e` wrote it
    cases e with
    | select id st => exact .inl h
    | write id st =>
      exact (List.mem_append.1 h).imp_right fun h => by cases List.mem_singleton.1 h; exact List.mem_cons_self

theorem answersOn_append (k : Nat) (es fs : List ShareEv) :
    answersOn k (es ++ fs) = answersOn k es + answersOn k fs := by
  simp only [answersOn, List.filter_append, List.length_append]

theorem answersOn_answer (k j : Nat) : answersOn k [.answer j] = if j = k then 1 else 0 := by
  simp only [answersOn, List.filter_cons, beq_iff_eq, ShareEv.answer.injEq]
  split <;> rfl

theorem getD_set {α : Type} {l : List α} {k : Nat} (hk : k < l.length) (j : Nat) (v d : α) :
    (l.set j v).getD k d = if j = k then v else l.getD k d := by
  have hk' : k < (l.set j v).length := by rwa [List.length_set]
  rw [← List.getElem_eq_getD (h := hk') d, ← List.getElem_eq_getD (h := hk) d, List.getElem_set]

/-- one event, seen from a connection `k` that has made its handshake: an answer on `k` is credited to
    `k`, nothing else changes what `k` holds -/
theorem ShareState.step_byConn (s : ShareState) (e : ShareEv) {k : Nat} (hk : k < s.acks.length) :
    (s.step true e).acks.getD k 0 = s.acks.getD k 0 + answersOn k [e] ∧ k < (s.step true e).acks.length := by
  fun_cases ShareState.step true s e
  next => -- handshake
    refine ⟨?_, by rw [List.length_append]; exact Nat.lt_add_right _ hk⟩
    rw [List.getD_eq_getElem?_getD, List.getD_eq_getElem?_getD]
    exact congrArg (·.getD 0) (List.getElem?_append_left hk)
  next j t hj => -- answer on a connection that has made its handshake; `t` is `j`
    rw [answersOn_answer]
    refine ⟨(getD_set hk _ _ _).trans ?_, by rwa [List.length_set]⟩
    show (if j = k then _ else _) = _
    split
    next e =>
      cases e
      rfl
    next => rfl
  next j hj => -- answer on a connection that has not
    rw [answersOn_answer, if_neg fun e : j = k => hj (e ▸ hk)]
    exact ⟨rfl, hk⟩

/-- with answers routed by connection, each connection is credited exactly the answers that
    arrived on it after its handshake - whatever happens on the other connections -/
theorem share_byConn (es : List ShareEv) (s : ShareState) (k : Nat) (hk : k < s.acks.length) :
    (s.run true es).acks.getD k 0 = s.acks.getD k 0 + answersOn k es ∧ k < (s.run true es).acks.length := by
  induction es generalizing s with
  | nil => exact ⟨rfl, hk⟩
  | cons e es ih =>
    obtain ⟨h1, h2⟩ := s.step_byConn e hk
    obtain ⟨r1, r2⟩ := ih (s.step true e) h2
    exact ⟨r1.trans (by rw [h1, Nat.add_assoc, ← answersOn_append]; rfl), r2⟩

end DV
