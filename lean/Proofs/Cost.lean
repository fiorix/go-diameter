import Model.Cost
/-! The body buffer reserved follows the bytes received (`bodyReserved_chunked`); `nest n` costs
    quadratically in its depth to serialise (C03, resources). -/
namespace DV

/-- read piecewise, a body never has more than one piece reserved beyond what has arrived -/
theorem bodyReserved_chunked (chunk l s : Nat) (hc : 0 < chunk) :
    bodyReserved chunk l s ≤ max 1024 (s + chunk) := by
  fun_cases bodyReserved chunk l s
  next => exact Nat.le_max_left _ _
  next h => exact Nat.le_trans (Nat.le_trans (h.resolve_left (Nat.ne_of_gt hc)) (Nat.le_add_left _ _)) (Nat.le_max_right _ _)
  next =>
    rw [Nat.add_one_mul]
    exact Nat.le_trans (Nat.le_trans (Nat.min_le_right _ _) (Nat.add_le_add_right (Nat.div_mul_le_self s chunk) _))
      (Nat.le_max_right _ _)

/-- without piecewise reading the reservation is the declared length, whatever arrives -/
theorem bodyReserved_unchunked (l s : Nat) (hl : 1024 < l) : bodyReserved 0 l s = l := by
  rw [bodyReserved, if_neg (Nat.not_le_of_gt hl), if_pos (.inl rfl)]

/-! one more level of nesting: an 8-byte header; the level's own buffer is written once more -/

theorem nest_succ_len (n : Nat) : (nest (n + 1)).len = 8 + (nest n).len :=
  rfl

theorem nest_succ_copyCost (n : Nat) :
    (nest (n + 1)).copyCost = (nest n).copyCost + (nest n).len + (nest (n + 1)).len :=
  rfl

theorem nest_len : ∀ n, (nest n).len = 12 + 8 * n
  | 0 => rfl
  | n+1 => by rw [nest_succ_len, nest_len n]; omega

theorem nest_depth : ∀ n, (nest n).depth = n
  | 0 => rfl
  | n+1 => by
    show max (nest n).depth 0 + 1 = n + 1
    rw [nest_depth n, Nat.max_zero]

/-- serialising `n` nested groups writes more than n²·4 bytes: quadratic in the depth, for an
    input that is linear in it -/
theorem nest_copyCost : ∀ n, 4 * n * n ≤ (nest n).copyCost
  | 0 => Nat.zero_le _
  | n+1 => by
    have e : 4 * (n + 1) * (n + 1) = 4 * n * n + 8 * n + 4 := by
      simp only [Nat.mul_add, Nat.add_mul, Nat.mul_one]; omega
    rw [nest_succ_copyCost, nest_len, nest_len, e]
    exact Nat.add_le_add (Nat.add_le_add (nest_copyCost n) (Nat.le_add_left _ _)) (Nat.le_add_right_of_le (by decide))

end DV
