import Model.Dict
import Spec.DictSpec
/-! `dict.Parser` (indexes with overwrite) refines the chronological-log Spec (C17). -/
namespace DV
open DV.Spec

theorem lastSome_append_single (p : α → Bool) (l : List α) (x : α) :
    lastSome p (l ++ [x]) = if p x then some x else lastSome p l := by
  induction l with
  | nil => simp [lastSome]
  | cons y r ih =>
    simp only [List.cons_append, lastSome, ih]
    by_cases h : p x = true <;> simp [h]

theorem lastSome_isSome (p : α → Bool) (l : List α) : (lastSome p l).isSome = l.any p := by
  induction l with
  | nil => rfl
  | cons x r ih =>
    simp only [lastSome, List.any_cons, ← ih]
    cases lastSome p r <;> cases p x <;> rfl

theorem alookup_find (k : Nat) (l : List (Nat × Nat)) :
    alookup k l = (l.find? (fun p => p.1 = k)).map (·.2) := by
  induction l with
  | nil => rfl
  | cons x r ih =>
    simp only [alookup, List.find?_cons, ih]
    by_cases h : x.1 = k <;> simp [h]

/-- the two entries `Load` makes for an AVP - any-vendor wildcard in front, exact vendor behind -
    answer exactly the queries the definition matches -/
theorem alookup_wild (app key vendor : Nat) (d : AvpDef) (idx : List ((Nat × Nat × Nat) × AvpDef)) (a k v : Nat) :
    alookup (a, k, v) (((app, key, UndefinedVendorID), d) :: ((app, key, vendor), d) :: idx) =
      if app = a ∧ key = k ∧ (v = UndefinedVendorID ∨ vendor = v) then some d else alookup (a, k, v) idx := by
  simp only [alookup, beq_iff_eq, Prod.mk.injEq, eq_comm (a := UndefinedVendorID)]
  by_cases h : app = a ∧ key = k
  · by_cases hv : v = UndefinedVendorID <;> simp [h, hv]
  · simp [h, ← and_assoc]

structure Refines (p : Parser) (l : Log) : Prop where
  apps : p.apps = l.apps
  code : ∀ a c v, alookup (a, c, v) p.avpcode = lastSome (defMatchesCode a c v) l.avps
  name : ∀ a n v, alookup (a, n, v) p.avpname = lastSome (defMatchesName a n v) l.avps
  cmd : ∀ a c, alookup (a, c) p.command = (lastSome (fun q => decide (q.1 = a ∧ q.2.code = c)) l.cmds).map (·.2)

theorem refines_init : Refines {} {} := by
  refine ⟨rfl, ?_, ?_, ?_⟩ <;> intros <;> simp [alookup, lastSome]

/-- indexing one AVP definition (under its vendor and under the wildcard) is logging it -/
theorem Refines.addAvp {p : Parser} {l : Log} (h : Refines p l) (d : AvpDef) :
    Refines
      { p with avpname := ((d.app, d.name, UndefinedVendorID), d) :: ((d.app, d.name, d.vendor), d) :: p.avpname,
               avpcode := ((d.app, d.code, UndefinedVendorID), d) :: ((d.app, d.code, d.vendor), d) :: p.avpcode }
      { l with avps := l.avps ++ [d] } :=
  ⟨h.apps, fun a c v => by simp only [alookup_wild, lastSome_append_single, defMatchesCode, decide_eq_true_eq, h.code],
    fun a n v => by simp only [alookup_wild, lastSome_append_single, defMatchesName, decide_eq_true_eq, h.name], h.cmd⟩

/-- indexing one command is logging it -/
theorem Refines.addCmd {p : Parser} {l : Log} (h : Refines p l) (app : Nat) (c : CmdDef) :
    Refines { p with command := ((app, c.code), c) :: p.command } { l with cmds := l.cmds ++ [(app, c)] } :=
  ⟨h.apps, h.code, h.name, fun a k => by
    simp only [alookup, lastSome_append_single, h.cmd a k, beq_iff_eq, Prod.mk.injEq, decide_eq_true_eq]
    split <;> rfl⟩

/-- the loaders return the state reached and whether the load goes on: the states refine, the verdicts agree -/
def RefinesR (r : Parser × Bool) (s : Log × Bool) : Prop := Refines r.1 s.1 ∧ r.2 = s.2

/-- results that agree still agree when each side continues, on `true`, with steps that agree (`generalizing :=
    false`: `h` mentions `r` and `s`, and `match` would otherwise abstract it, so that the loaders' own `match` would
    not unify with this one) -/
theorem RefinesR.andThen {r : Parser × Bool} {s : Log × Bool} (h : RefinesR r s)
    {f : Parser → Parser × Bool} {g : Log → Log × Bool} (hfg : ∀ p l, Refines p l → RefinesR (f p) (g l)) :
    RefinesR (match (generalizing := false) r with | (p, false) => (p, false) | (p, true) => f p)
      (match (generalizing := false) s with | (l, false) => (l, false) | (l, true) => g l) := by
  obtain ⟨p, b⟩ := r
  obtain ⟨l, _⟩ := s
  obtain ⟨h, rfl⟩ : Refines p l ∧ b = _ := h
  cases b with
  | false => exact ⟨h, rfl⟩
  | true => exact hfg p l h

theorem loadAvps_refines (available : List (Nat × Nat)) (app : Nat) :
    ∀ (rows : List AvpRow) (p : Parser) (l : Log), Refines p l →
      RefinesR (loadAvps available app rows p) (logAvps available app rows l)
  | [], p, l, h => ⟨h, rfl⟩
  | (name, code, vendor, must, tyName, items) :: r, p, l, h => by
    simp only [loadAvps, logAvps, resolveType, alookup_find]
    generalize (available.find? (fun q => q.1 = tyName)).map (·.2) = known
    have hstep := h.addAvp ⟨name, code, vendor, must, tyName, items, known.getD 0, app⟩
    cases known with
    | none => exact ⟨hstep, rfl⟩
    | some t => exact loadAvps_refines available app r _ _ hstep

theorem loadCmds_refines (app : Nat) :
    ∀ (rows : List CmdRow) (p : Parser) (l : Log), Refines p l → RefinesR (loadCmds app rows p) (logCmds app rows l)
  | [], p, l, h => ⟨h, rfl⟩
  | (code, short, nreq, nans) :: r, p, l, h => by
    simp only [loadCmds, logCmds, ← lastSome_isSome, h.cmd app code]
    cases lastSome (fun q => decide (q.1 = app ∧ q.2.code = code)) l.cmds with
    | some c => exact ⟨h, rfl⟩
    | none => exact loadCmds_refines app r _ _ (h.addCmd app ⟨code, short, nreq, nans⟩)

theorem loadApps_refines (available : List (Nat × Nat)) :
    ∀ (rows : List AppRow) (p : Parser) (l : Log), Refines p l → RefinesR (loadApps available rows p) (logApps available rows l)
  | [], _, _, h => ⟨h, rfl⟩
  | (id, typ, vendors, cmds, avps) :: r, p, l, h =>
    -- `Refines` does not read the application indexes
    have h0 : Refines { p with appcode := (id, ⟨id, typ, vendors⟩) :: p.appcode,
                               apptype := ((id, typ), ⟨id, typ, vendors⟩) :: p.apptype } l := ⟨h.apps, h.code, h.name, h.cmd⟩
    (loadCmds_refines id cmds _ l h0).andThen fun p1 l1 h1 =>
      (loadAvps_refines available id avps p1 l1 h1).andThen (loadApps_refines available r)

theorem load_refines (available : List (Nat × Nat)) (p : Parser) (l : Log) (f : FileRow) (h : Refines p l) :
    RefinesR (p.load available f) (logFile available l f) :=
  loadApps_refines available f _ _ ⟨congrArg (· ++ _) h.apps, h.code, h.name, h.cmd⟩

theorem loadAll_refines (available : List (Nat × Nat)) (fs : List FileRow) :
    Refines (Parser.loadAll available fs) (logAll available fs) :=
  List.foldl_rel refines_init fun f _ p l h => (load_refines available p l f h).1

/-- `FindAVPWithVendor` and its reference, over any way `look` of finding a definition within one application:
    own application, parents, base -/
def chainFind (look : Nat → Nat → Nat → Option AvpDef) (parents : List (Nat × Nat)) : Nat → Nat → Nat → Nat → Option AvpDef
  | 0, _, _, _ => none
  | fuel+1, app, key, vendor =>
    match look app key vendor with
    | some d => some d
    | none => if app = 0 then none else chainFind look parents fuel (parentOf parents app) key vendor

theorem findCode_eq (p : Parser) (parents : List (Nat × Nat)) (fuel app code vendor : Nat) :
    p.findCode parents fuel app code vendor = chainFind (fun a c v => alookup (a, c, v) p.avpcode) parents fuel app code vendor := by
  induction fuel generalizing app with
  | zero => rfl
  | succ fuel ih => rw [Parser.findCode, chainFind, ih]; rfl

theorem findName_eq (p : Parser) (parents : List (Nat × Nat)) (fuel app name vendor : Nat) :
    p.findName parents fuel app name vendor = chainFind (fun a n v => alookup (a, n, v) p.avpname) parents fuel app name vendor := by
  induction fuel generalizing app with
  | zero => rfl
  | succ fuel ih => rw [Parser.findName, chainFind, ih]; rfl

theorem Spec.findCode_eq (l : Log) (parents : List (Nat × Nat)) (fuel app code vendor : Nat) :
    Spec.findCode l parents fuel app code vendor =
      chainFind (fun a c v => lastSome (defMatchesCode a c v) l.avps) parents fuel app code vendor := by
  induction fuel generalizing app with
  | zero => rfl
  | succ fuel ih => rw [Spec.findCode, chainFind, ih]; rfl

theorem Spec.findName_eq (l : Log) (parents : List (Nat × Nat)) (fuel app name vendor : Nat) :
    Spec.findName l parents fuel app name vendor =
      chainFind (fun a n v => lastSome (defMatchesName a n v) l.avps) parents fuel app name vendor := by
  induction fuel generalizing app with
  | zero => rfl
  | succ fuel ih => rw [Spec.findName, chainFind, ih]; rfl

theorem findCode_refines (p : Parser) (l : Log) (parents : List (Nat × Nat)) (h : Refines p l) (fuel app code vendor : Nat) :
    p.findCode parents fuel app code vendor = Spec.findCode l parents fuel app code vendor := by
  simp only [findCode_eq, Spec.findCode_eq, h.code]

theorem findName_refines (p : Parser) (l : Log) (parents : List (Nat × Nat)) (h : Refines p l) (fuel app name vendor : Nat) :
    p.findName parents fuel app name vendor = Spec.findName l parents fuel app name vendor := by
  simp only [findName_eq, Spec.findName_eq, h.name]

theorem findCommand_refines (p : Parser) (l : Log) (h : Refines p l) (app code : Nat) :
    p.findCommand app code = Spec.findCommand l app code := by
  unfold Parser.findCommand Spec.findCommand
  rw [h.cmd app code, h.cmd 0 code]
  cases lastSome (fun q => decide (q.1 = app ∧ q.2.code = code)) l.cmds <;> rfl

/-- a parent is the base application or the right side of an entry of the table -/
theorem parentOf_mem (ps : List (Nat × Nat)) (app : Nat) : parentOf ps app ∈ 0 :: ps.map (·.2) := by
  unfold parentOf
  induction ps with
  | nil => exact List.mem_cons_self
  | cons p r ih =>
    simp only [alookup, List.map_cons, List.mem_cons] at ih ⊢
    split
    · exact .inr (.inl rfl)
    · exact ih.imp_right .inr

end DV
