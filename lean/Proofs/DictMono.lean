import Proofs.Dict
/-! Loading more dictionaries never makes anything unresolvable (C17 c). -/
namespace DV

/-- `p'` extends `p`: every index of `p'` is that of `p` with newer entries in front -/
structure Ext (p p' : Parser) : Prop where
  avpcode : ∃ x, p'.avpcode = x ++ p.avpcode
  avpname : ∃ x, p'.avpname = x ++ p.avpname
  command : ∃ x, p'.command = x ++ p.command
  appcode : ∃ x, p'.appcode = x ++ p.appcode
  apptype : ∃ x, p'.apptype = x ++ p.apptype

/-- `Load` only ever puts new entries in front of the indexes (and appends to `apps`): a
    reflexive, transitive relation that holds across each kind of insertion holds across a load. -/
structure LoadRel (R : Parser → Parser → Prop) : Prop where
  refl : ∀ p, R p p
  trans : ∀ {p q r}, R p q → R q r → R p r
  avp : ∀ p (k1 k2 k3 k4 : Nat × Nat × Nat) (d : AvpDef),
    R p { p with avpname := (k1, d) :: (k2, d) :: p.avpname, avpcode := (k3, d) :: (k4, d) :: p.avpcode }
  cmd : ∀ p k (c : CmdDef), R p { p with command := (k, c) :: p.command }
  app : ∀ p (a : AppInfo), R p { p with appcode := (a.id, a) :: p.appcode, apptype := ((a.id, a.typ), a) :: p.apptype }
  file : ∀ p (as : List AppInfo), R p { p with apps := p.apps ++ as }

variable {R : Parser → Parser → Prop} (hR : LoadRel R) (available : List (Nat × Nat))
include hR

theorem loadAvps_rel (app : Nat) : ∀ (rows : List AvpRow) (p : Parser), R p (loadAvps available app rows p).1
  | [], p => hR.refl p
  | (name, code, vendor, must, tyName, items) :: r, p => by
    simp only [loadAvps]
    cases resolveType available tyName with
    | none => exact hR.avp p _ _ _ _ _
    | some t => exact hR.trans (hR.avp p _ _ _ _ _) (loadAvps_rel app r _)

theorem loadCmds_rel (app : Nat) : ∀ (rows : List CmdRow) (p : Parser), R p (loadCmds app rows p).1
  | [], p => hR.refl p
  | (code, short, nreq, nans) :: r, p => by
    simp only [loadCmds]
    cases alookup (app, code) p.command with
    | some c => exact hR.refl p
    | none => exact hR.trans (hR.cmd p (app, code) { code, short, nreq, nans }) (loadCmds_rel app r _)

/-- a result related to `p` stays related when the load continues, on `true`, with a step that relates -/
theorem LoadRel.andThen {p : Parser} {r : Parser × Bool} (h : R p r.1) {f : Parser → Parser × Bool} (hf : ∀ q, R q (f q).1) :
    R p (match (generalizing := false) r with | (q, false) => (q, false) | (q, true) => f q).1 := by
  obtain ⟨q, b⟩ := r
  cases b with
  | false => exact h
  | true => exact hR.trans h (hf q)

theorem loadApps_rel : ∀ (rows : List AppRow) (p : Parser), R p (loadApps available rows p).1
  | [], p => hR.refl p
  | (id, typ, vendors, cmds, avps) :: r, p =>
    hR.andThen (hR.trans (hR.app p ⟨id, typ, vendors⟩) (loadCmds_rel hR id cmds _)) fun p1 =>
      hR.andThen (loadAvps_rel hR available id avps p1) (loadApps_rel r)

theorem load_rel (p : Parser) (f : FileRow) : R p (p.load available f).1 :=
  hR.trans (hR.file p _) (loadApps_rel hR available f _)

theorem loadAll_rel (fs : List FileRow) : R {} (Parser.loadAll available fs) :=
  List.foldlRecOn fs _ (hR.refl {}) fun p h f _ => hR.trans h (load_rel hR available p f)

omit hR

theorem Ext.refl (p : Parser) : Ext p p := ⟨⟨[], rfl⟩, ⟨[], rfl⟩, ⟨[], rfl⟩, ⟨[], rfl⟩, ⟨[], rfl⟩⟩

theorem Ext.trans {p q r : Parser} (h1 : Ext p q) (h2 : Ext q r) : Ext p r :=
  have t {α : Type} {a b c : List α} : (∃ x, b = x ++ a) → (∃ y, c = y ++ b) → ∃ z, c = z ++ a :=
    fun ⟨x, hx⟩ ⟨y, hy⟩ => ⟨y ++ x, by rw [hy, hx, List.append_assoc]⟩
  ⟨t h1.avpcode h2.avpcode, t h1.avpname h2.avpname, t h1.command h2.command, t h1.appcode h2.appcode,
    t h1.apptype h2.apptype⟩

theorem Ext.loadRel : LoadRel Ext where
  refl := Ext.refl
  trans := Ext.trans
  avp p _ _ _ _ _ := { Ext.refl p with avpname := ⟨[_, _], rfl⟩, avpcode := ⟨[_, _], rfl⟩ }
  cmd p _ _ := { Ext.refl p with command := ⟨[_], rfl⟩ }
  app p _ := { Ext.refl p with appcode := ⟨[_], rfl⟩, apptype := ⟨[_], rfl⟩ }
  file p _ := { Ext.refl p with }

theorem load_ext (available : List (Nat × Nat)) (p : Parser) (f : FileRow) : Ext p (p.load available f).1 :=
  load_rel Ext.loadRel available p f

/-- whenever an application id is indexed, so is its (id, type) pair -/
def AppCons (p : Parser) : Prop :=
  ∀ code a, alookup code p.appcode = some a → (alookup (code, a.typ) p.apptype).isSome

theorem AppCons.loadRel : LoadRel fun p q => AppCons p → AppCons q where
  refl _ h := h
  trans h1 h2 h := h2 (h1 h)
  avp _ _ _ _ _ _ h := h
  cmd _ _ _ h := h
  file _ _ h := h
  app p a h code b hb := by
    simp only [alookup, beq_iff_eq, Prod.mk.injEq] at hb ⊢
    by_cases hid : a.id = code
    · rw [if_pos hid] at hb
      cases hb
      rw [if_pos ⟨hid, rfl⟩]; rfl
    · rw [if_neg hid] at hb
      split
      · rfl
      · exact h code b hb

theorem loadAll_appCons (available : List (Nat × Nat)) (fs : List FileRow) : AppCons (Parser.loadAll available fs) :=
  loadAll_rel AppCons.loadRel available fs fun code a h => by simp [alookup] at h

theorem lookup_mono [BEq κ] (k : κ) (L L' : List (κ × ν)) (h : ∃ x, L' = x ++ L)
    (hs : (alookup k L).isSome) : (alookup k L').isSome := by
  obtain ⟨x, rfl⟩ := h
  induction x with
  | nil => exact hs
  | cons e r ih =>
    simp only [List.cons_append, alookup]
    split
    · rfl
    · exact ih

theorem chainFind_isSome (look : Nat → Nat → Nat → Option AvpDef) (parents : List (Nat × Nat)) (fuel app key vendor : Nat) :
    (chainFind look parents (fuel + 1) app key vendor).isSome =
      ((look app key vendor).isSome || (app != 0 && (chainFind look parents fuel (parentOf parents app) key vendor).isSome)) := by
  rw [chainFind]
  cases look app key vendor <;> by_cases h : app = 0 <;> simp [h]

theorem chainFind_mono {look look' : Nat → Nat → Nat → Option AvpDef}
    (h : ∀ a k v, (look a k v).isSome → (look' a k v).isSome) (parents : List (Nat × Nat)) :
    ∀ fuel app key vendor, (chainFind look parents fuel app key vendor).isSome →
      (chainFind look' parents fuel app key vendor).isSome
  | 0, _, _, _, hh => hh
  | fuel+1, app, key, vendor, hh => by
    simp only [chainFind_isSome, Bool.or_eq_true, Bool.and_eq_true] at hh ⊢
    exact hh.imp (h app key vendor) (And.imp_right (chainFind_mono h parents fuel _ key vendor))

theorem findCode_mono (p p' : Parser) (h : Ext p p') (parents : List (Nat × Nat)) (fuel app code vendor : Nat) :
    (p.findCode parents fuel app code vendor).isSome → (p'.findCode parents fuel app code vendor).isSome := by
  rw [findCode_eq, findCode_eq]; exact chainFind_mono (fun _ _ _ => lookup_mono _ _ _ h.avpcode) parents fuel app code vendor

theorem findName_mono (p p' : Parser) (h : Ext p p') (parents : List (Nat × Nat)) (fuel app name vendor : Nat) :
    (p.findName parents fuel app name vendor).isSome → (p'.findName parents fuel app name vendor).isSome := by
  rw [findName_eq, findName_eq]; exact chainFind_mono (fun _ _ _ => lookup_mono _ _ _ h.avpname) parents fuel app name vendor

theorem findCommand_isSome (p : Parser) (app code : Nat) : (p.findCommand app code).isSome =
    ((alookup (app, code) p.command).isSome || (alookup (0, code) p.command).isSome) := by
  unfold Parser.findCommand; cases alookup (app, code) p.command <;> rfl

theorem findCommand_mono (p p' : Parser) (h : Ext p p') (app code : Nat)
    (hh : (p.findCommand app code).isSome) : (p'.findCommand app code).isSome := by
  rw [findCommand_isSome, Bool.or_eq_true] at hh ⊢
  exact hh.imp (lookup_mono _ _ _ h.command) (lookup_mono _ _ _ h.command)

/-- `App(code, typ)` finds an application as soon as the (id, type) index holds the pair asked for or the
    type-less one: whatever is tried in between, the type-less entry remains as the last resort -/
theorem app_isSome_of (p : Parser) (code t : Nat)
    (h : (alookup (code, t) p.apptype).isSome ∨ (alookup (code, 0) p.apptype).isSome) : (p.app code (some t)).isSome := by
  simp only [Parser.app]
  cases h1 : alookup (code, t) p.apptype with
  | some a => rfl
  | none =>
    have h0 : (alookup (code, 0) p.apptype).isSome := by simpa [h1] using h
    cases alookup code p.appcode with
    | none => exact h0
    | some a =>
      dsimp only
      split
      · rfl
      · exact h0

/-- ... and only then, when every indexed id has its pair indexed: the by-id entry that `App` may return instead
    has type 0 or `t`, so its pair is one of the two -/
theorem app_isSome {p : Parser} (hc : AppCons p) (code t : Nat) (h : (p.app code (some t)).isSome) :
    (alookup (code, t) p.apptype).isSome ∨ (alookup (code, 0) p.apptype).isSome := by
  simp only [Parser.app] at h
  cases h1 : alookup (code, t) p.apptype with
  | some a => exact .inl rfl
  | none =>
    rw [h1] at h
    cases h2 : alookup code p.appcode with
    | none => rw [h2] at h; exact .inr h
    | some a =>
      rw [h2] at h
      have hp := hc code a h2
      by_cases ht : a.typ = 0 ∨ a.typ = t
      · rcases ht with ht | ht
        · exact .inr (ht ▸ hp)
        · rw [ht, h1] at hp; cases hp
      · simp only [if_neg ht] at h; exact .inr h

theorem app_mono (p p' : Parser) (h : Ext p p') (hc : AppCons p) (code : Nat) (typ : Option Nat)
    (hh : (p.app code typ).isSome) : (p'.app code typ).isSome := by
  cases typ with
  | none => exact lookup_mono code _ _ h.appcode hh
  | some t =>
    exact app_isSome_of p' code t
      ((app_isSome hc code t hh).imp (lookup_mono _ _ _ h.apptype) (lookup_mono _ _ _ h.apptype))

theorem loadAll_snoc (available : List (Nat × Nat)) (fs : List FileRow) (f : FileRow) :
    Parser.loadAll available (fs ++ [f]) = ((Parser.loadAll available fs).load available f).1 := by
  simp [Parser.loadAll, List.foldl_append]

end DV
