import Proofs.Codec
/-! The model encoder equals the independent RFC 6733 reference encoder on canonical values. -/
namespace DV
open DV.Spec

theorem hasV_spec (f : Nat) : (hasV f = true) ↔ (f / 128 % 2 = 1) := decide_eq_true_iff

theorem avpSize_mod : ∀ a : AVP, avpSize a % 4 = 0
  | .mk _ _ _ _ _ => pad4_mod _

theorem sizeL_mod : ∀ as : List AVP, sizeL as % 4 = 0
  | [] => rfl
  | a :: r => by rw [sizeL, Nat.add_mod, avpSize_mod, sizeL_mod r]

/-- a canonical value asks for the padding that brings its data to a multiple of four. `hlen` is
    `(ser_eq d hd).2`; it is a hypothesis here because `ser_eq` is proved with this lemma (the group case). -/
theorem canon_padding (d : Val) (hd : canonVal d = true) (hlen : d.len = dataSize d) :
    d.padding = pad4 d.len - d.len := by
  cases d with
  | str t b => exact if_neg (canonVal_str.mp hd).ne_grouped
  | addr b => rfl
  | ip4 b => exact (pad4_sub_of_mod (by rw [Val.len])).symm
  | ip6 b => exact (pad4_sub_of_mod (by rw [Val.len])).symm
  | fix t n => exact (pad4_sub_of_mod (fixW_mod4 t)).symm
  | time u => exact (pad4_sub_of_mod (by rw [Val.len])).symm
  | group as => exact (pad4_sub_of_mod (hlen ▸ sizeL_mod as)).symm

mutual
/-- on canonical values the library's `Serialize`/`Len` are the RFC data octets and their count -/
theorem ser_eq : ∀ v : Val, canonVal v = true → v.ser = dataOctets v ∧ v.len = dataSize v
  | .str t b, _ => ⟨rfl, rfl⟩
  | .addr b, h => addr_ser (canonVal_addr.mp h).notMapped
  | .ip4 b, h => ⟨by rw [Val.ser, to4_len4 (canonVal_ip4.mp h)]; rfl, rfl⟩
  | .ip6 b, h => ⟨by rw [Val.ser, to16_len16 (canonVal_ip6.mp h)]; rfl, rfl⟩
  | .fix t n, _ => ⟨apply_ite (be · n) _ 8 4, rfl⟩
  | .time u, _ => ⟨rfl, rfl⟩
  | .group as, h => encL_eq as h
/-- the AVP image is the RFC image, and `AVP.Len()` its size -/
theorem enc_eq : ∀ a : AVP, canonAVP a = true → a.enc = emit a ∧ a.len = avpSize a
  | .mk c f l v d, h => by
    have hd := canonVal_of_canonAVP h
    obtain ⟨hs, hl⟩ := ser_eq d hd
    rw [AVP.enc_hdr, AVP.len_eq, canon_padding d hd hl, ← pad4_sub_add_hdr (hdrLen_mod4 f), pad4_sub_self, hs, hl]
    simp only [emit, avpSize, hdrBytes, zeros, hdrLen, hasV_spec, List.append_assoc, List.cons_append,
      List.nil_append, and_true]
theorem encL_eq : ∀ as : List AVP, canonL as = true → encL as = emitL as ∧ lenL as = sizeL as
  | [], _ => ⟨rfl, rfl⟩
  | a :: r, h => by
    rw [canonL, Bool.and_eq_true] at h
    simp only [encL, emitL, lenL, sizeL, enc_eq a h.1, encL_eq r h.2, and_self]
end

end DV
