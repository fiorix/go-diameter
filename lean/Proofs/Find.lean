import Model.Find
import Spec.Find
/-! The searches by code (`findFromAVP`) against the pre-order listing, by one induction over the tree stated on
    `members`. `withPath` (`avpsWithPath`) and the reference `followPath` both visit, level by level, the members
    of the AVPs whose code matches: each is `flatMap` of one `visit`. -/
namespace DV
open DV.Spec

/-- induction over an AVP tree: an AVP from its members, a list from its elements -/
theorem AVP.tree_ind {P : AVP → Prop} {Q : List AVP → Prop} (mk : ∀ a, Q (members a) → P a) (nil : Q [])
    (cons : ∀ a r, P a → Q r → Q (a :: r)) : (∀ a, P a) ∧ ∀ as, Q as := by
  refine preorder.mutual_induct P Q (fun _ _ _ _ d ih => mk _ ?_) nil cons
  cases d
  case group => exact ih
  all_goals exact nil

/-! the walks on one AVP, with `members` for the `match` on its data -/

theorem preorder_members : ∀ a : AVP, preorder a = a :: preorderL (members a)
  | .mk _ _ _ _ d => by cases d <;> rfl

theorem findAll_members (c : Nat) : ∀ a : AVP,
    findAll c a = (if a.code = c then [a] else []) ++ findAllL c (members a)
  | .mk _ _ _ _ d => by cases d <;> rfl

theorem findFirst_members (c : Nat) : ∀ a : AVP,
    findFirst c a = if a.code = c then some a else findFirstL c (members a)
  | .mk _ _ _ _ d => by cases d <;> rfl

theorem findAll_preorder (c : Nat) : (∀ a, findAll c a = (preorder a).filter (fun x => x.code = c)) ∧
    ∀ as, findAllL c as = (preorderL as).filter (fun x => x.code = c) := by
  refine AVP.tree_ind (fun a ih => ?_) rfl fun a r ha hr => ?_
  · rw [findAll_members, preorder_members, List.filter_cons, ih]
    by_cases h : a.code = c <;> simp [h]
  · show findAll c a ++ findAllL c r = List.filter _ (preorder a ++ preorderL r)
    rw [List.filter_append, ha, hr]

theorem findFirst_preorder (c : Nat) : (∀ a, findFirst c a = (preorder a).find? (fun x => x.code = c)) ∧
    ∀ as, findFirstL c as = (preorderL as).find? (fun x => x.code = c) := by
  refine AVP.tree_ind (fun a ih => ?_) rfl fun a r ha hr => ?_
  · rw [findFirst_members, preorder_members, List.find?_cons, ih]
    by_cases h : a.code = c <;> simp [h]
  · show (match findFirst c a with | some x => some x | none => findFirstL c r) = List.find? _ (preorder a ++ preorderL r)
    rw [ha, hr, List.find?_append]
    cases (preorder a).find? (fun x => x.code = c) <;> rfl

theorem followPath_step (as : List AVP) (c c' : Nat) (rest : List Nat) :
    followPath as (c :: c' :: rest) =
      followPath (((as.filter (fun a => a.code = c)).map members).flatten) (c' :: rest) := by
  rw [followPath]
  -- the side condition of the third equation: the path is not the one-element `[c]` of the second
  intro h; cases h

/-- what one level of either walk does with one AVP: nothing unless the code matches; then the AVP
    itself at the end of the path, its members' walk otherwise (the tests in the order `avpsWithPath` makes them) -/
def visit (walk : List AVP → List AVP) (c : Nat) (last : Bool) (a : AVP) : List AVP :=
  if a.code ≠ c then [] else if last then [a] else walk (members a)

theorem followPath_append : ∀ (p : List Nat) (xs ys : List AVP),
    followPath (xs ++ ys) p = followPath xs p ++ followPath ys p
  | [], xs, ys | [_], xs, ys => by simp [followPath]
  | c :: c' :: rest, xs, ys => by
    rw [followPath_step, followPath_step xs, followPath_step ys]
    simp only [List.filter_append, List.map_append, List.flatten_append]
    exact followPath_append (c' :: rest) _ _

/-- a walk that distributes over `++` finds nothing in `[]` -/
theorem followPath_nil (p : List Nat) : followPath [] p = [] :=
  List.self_eq_append_right.mp (followPath_append p [] [])

theorem followPath_one (a : AVP) (c : Nat) (rest : List Nat) :
    followPath [a] (c :: rest) = visit (followPath · rest) c rest.isEmpty a := by
  cases rest with
  | nil => by_cases h : a.code = c <;> simp [followPath, visit, h]
  | cons c' rest' => by_cases h : a.code = c <;> simp [followPath_step, visit, h, followPath_nil]

theorem followPath_cons (c : Nat) (rest : List Nat) : ∀ as : List AVP,
    followPath as (c :: rest) = as.flatMap (visit (followPath · rest) c rest.isEmpty)
  | [] => followPath_nil _
  | a :: r => by
    rw [← List.singleton_append, followPath_append, followPath_one, followPath_cons c rest r]; simp

theorem withPath_nil (p : List Nat) : withPath [] p = [] := by cases p <;> rfl

/-- the `match` on the data in `withPath` is the walk of `members`: a leaf has none, and `withPath [] rest = []` -/
theorem withPath_members (rest : List Nat) : ∀ a : AVP,
    (match a.data with | .group as => withPath as rest | _ => []) = withPath (members a) rest
  | .mk _ _ _ _ d => by
    cases d
    case group => rfl
    all_goals exact (withPath_nil rest).symm

theorem withPath_cons (c : Nat) (rest : List Nat) (as : List AVP) :
    withPath as (c :: rest) = as.flatMap (visit (withPath · rest) c rest.isEmpty) := by
  refine congrArg List.flatten (List.map_congr_left fun a _ => ?_)
  rw [visit, ← withPath_members]
  rfl

theorem withPath_eq_followPath : ∀ (p : List Nat) (as : List AVP), withPath as p = followPath as p
  | [], as => by simp [withPath, followPath]
  | c :: rest, as => by
    rw [withPath_cons, followPath_cons, funext (withPath_eq_followPath rest)]

end DV
