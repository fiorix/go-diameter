import Proofs.Codec
/-! The decoder is the Length-only frame walk followed by typing each payload (C04). -/
namespace DV
open DV.Spec

/-- success value of an outcome (errors and panics both fail; `decode_noPanic` separately shows
    the decoder never panics) -/
def Res.toOpt : Res α → Option α
  | .ok a => some a
  | _ => none

@[simp] theorem Res.toOpt_mapR (g : α → β) (r : Res α) : (r.mapR g).toOpt = r.toOpt.map g := by
  cases r <;> rfl
@[simp] theorem Res.toOpt_bindR (r : Res α) (f : α → Res β) :
    (r.bindR f).toOpt = r.toOpt.bind (fun a => (f a).toOpt) := by
  cases r <;> rfl
@[simp] theorem Res.toOpt_ok (a : α) : (Res.ok a).toOpt = some a := rfl
@[simp] theorem Res.toOpt_err (e : String) : (Res.err e : Res α).toOpt = none := rfl

theorem Res.toOpt_eq_some {r : Res α} {a : α} : r.toOpt = some a ↔ r = .ok a := by
  cases r <;> simp [Res.toOpt]

def isG (ty : Nat → Nat → Nat) : Nat → Nat → Bool := fun c v => decide (ty c v = T.grouped)

theorem pad4_eq_roundUp4 (n : Nat) : pad4 n = roundUp4 n := by
  unfold pad4 roundUp4; omega

/-- the reference walk tests the V bit as `flags ≥ 128`; on a flags octet that is `hasV` -/
theorem ite_vbit {α : Type} {f : Nat} (h : f < 256) (x y : α) :
    (if f ≥ 128 then x else y) = if hasV f then x else y := by
  have : hasV f = true ↔ f ≥ 128 := by unfold hasV; simp; omega
  simp only [this]

theorem frameOne_zero (g : Nat → Nat → Bool) (b : Bytes) : frameOne g 0 b = .err "fuel" := by
  rw [frameOne]
theorem frames_zero (g : Nat → Nat → Bool) (b : Bytes) :
    frames g 0 b = if b.isEmpty then .ok [] else .err "fuel" := by
  rw [frames]

theorem frameOne_of_hdrOk (g : Nat → Nat → Bool) (fuel : Nat) {data : Bytes} (h : hdrOk data) :
    frameOne g (fuel+1) data =
      if g (avpCode data) (avpVendor data) then
        (frames g fuel (payloadOf data)).mapR
          (fun kids => Frame.group (avpCode data) (avpFlags data) (avpLen data) (avpVendor data) kids)
      else .ok (.leaf (avpCode data) (avpFlags data) (avpLen data) (avpVendor data) (payloadOf data)) := by
  have hf := avpFlags_lt data
  unfold hdrOk payloadOf avpVendor avpCode hdrLen avpLen avpFlags at *
  rw [frameOne]
  generalize (data.getD 4 0).toNat = f at *
  simp only [ite_vbit hf, if_neg (Nat.not_lt.mpr h.1), if_neg (Nat.not_lt.mpr h.2.1),
    if_neg (Nat.not_lt.mpr h.2.2)]

theorem frameOne_of_not_hdrOk (g : Nat → Nat → Bool) (fuel : Nat) {data : Bytes} (h : ¬ hdrOk data) :
    ∃ e, frameOne g (fuel+1) data = .err e := by
  have hf := avpFlags_lt data
  unfold hdrOk hdrLen avpLen avpFlags at *
  rw [frameOne]
  generalize (data.getD 4 0).toNat = f at *
  generalize rd ((data.drop 5).take 3) = L at *
  simp only [ite_vbit hf]
  by_cases h1 : data.length < 8
  · exact ⟨_, if_pos h1⟩
  by_cases h2 : L < if hasV f = true then 12 else 8
  · exact ⟨_, by rw [if_neg h1, if_pos h2]⟩
  exact ⟨_, by rw [if_neg h1, if_neg h2, if_pos (by omega)]⟩

theorem hdrOk_of_frameOne_ok {g : Nat → Nat → Bool} {fuel : Nat} {data : Bytes} {f : Frame}
    (h : frameOne g (fuel+1) data = .ok f) : hdrOk data :=
  Decidable.by_contra fun hk => by
    obtain ⟨e, he⟩ := frameOne_of_not_hdrOk g fuel hk
    rw [he] at h; cases h

theorem frames_succ (g : Nat → Nat → Bool) (fuel : Nat) (bs : Bytes) :
    frames g (fuel+1) bs =
      if bs.isEmpty then .ok [] else
      (frameOne g fuel bs).bindR (fun f =>
        (frames g fuel (bs.drop (roundUp4 (avpLen bs)))).mapR (fun r => f :: r)) := by
  rw [frames]; rfl

theorem typed_leaf (ty : Nat → Nat → Nat) (c f l v : Nat) (p : Bytes) :
    typed ty (.leaf c f l v p) = (decodeLeaf (ty c v) p).mapR (fun d => AVP.mk c f l v d) := by
  rw [typed]
theorem typed_group (ty : Nat → Nat → Nat) (c f l v : Nat) (kids : List Frame) :
    typed ty (.group c f l v kids) = (typedL ty kids).mapR (fun as => AVP.mk c f l v (.group as)) := by
  rw [typed]
theorem typedL_nil (ty : Nat → Nat → Nat) : typedL ty [] = .ok [] := by rw [typedL]
theorem typedL_cons (ty : Nat → Nat → Nat) (f : Frame) (r : List Frame) :
    typedL ty (f :: r) = (typed ty f).bindR (fun a => (typedL ty r).mapR (fun as => a :: as)) := by
  rw [typedL]

/-- the Length field of a decoded AVP is the one on the wire -/
theorem decodeAVP_length (ty : Nat → Nat → Nat) (fuel : Nat) (b : Bytes) (a : AVP)
    (h : decodeAVP ty fuel b = .ok a) : a.length = avpLen b := by
  cases fuel with
  | zero => rw [decodeAVP_zero] at h; cases h
  | succ fuel =>
    rw [decodeAVP_of_hdrOk ty fuel (hdrOk_of_decodeAVP_ok h), decodePayload_unfold] at h
    split at h <;> obtain ⟨_, -, rfl⟩ := Res.mapR_eq_ok.mp h <;> rfl

theorem opt_comm {α β γ : Type} (t : Option α) (F : Option γ) (G : γ → Option (List α)) :
    t.bind (fun a => (F.bind G).map (fun r => a :: r)) =
    F.bind (fun r => t.bind (fun a => (G r).map (fun as => a :: as))) := by
  cases t <;> cases F <;> simp

/-- C04, core: for every dictionary typing `ty`, every fuel and every byte string, decoding a
    container succeeds exactly when the Length-only frame walk followed by typing each frame's
    payload succeeds, with the same AVPs. -/
theorem frame_equiv (ty : Nat → Nat → Nat) : ∀ fuel : Nat,
    (∀ data, (decodeAVP ty fuel data).toOpt = ((frameOne (isG ty) fuel data).bindR (typed ty)).toOpt) ∧
    (∀ b, (decodeAVPs ty fuel b).toOpt = ((frames (isG ty) fuel b).bindR (typedL ty)).toOpt)
  | 0 => by
    refine ⟨fun _ => rfl, fun b => ?_⟩
    rw [decodeAVPs_zero, frames_zero]
    split
    · rw [Res.bindR, typedL_nil]
    · rfl
  | fuel+1 => by
    have ih := frame_equiv ty fuel
    refine ⟨fun data => ?_, fun b => ?_⟩
    · rcases decodeAVP_cases ty fuel data with ⟨hk, h⟩ | ⟨hk, e, h⟩
      · rw [h, frameOne_of_hdrOk _ fuel hk, decodePayload_unfold]
        by_cases hg : ty (avpCode data) (avpVendor data) = T.grouped
        · -- a group is typed member by member: both sides are the walk of the payload, then `typedL`
          simp only [isG, hg, decide_true, if_true, Res.toOpt_mapR, Res.toOpt_bindR, ih.2, typed_group,
            Option.bind_map, Function.comp_def, Option.map_bind]
        · simp only [isG, hg, decide_false, Bool.false_eq_true, if_false, Res.bindR, typed_leaf]
      · obtain ⟨e', h'⟩ := frameOne_of_not_hdrOk (isG ty) fuel hk
        rw [h, h']; rfl
    · rw [decodeAVPs_succ, frames_succ]
      split
      · rw [Res.bindR, typedL_nil]
      -- both cursors advance by the Length field on the wire
      rw [Res.bindR_congr fun a h => by rw [decodeAVP_length ty fuel b a h]]
      -- the decoder types each AVP before it moves on, the walk frames everything first: `opt_comm`
      simp only [Res.toOpt_bindR, Res.toOpt_mapR, typedL_cons, pad4_eq_roundUp4, ih.1, ih.2,
        Option.bind_assoc, Option.bind_map, Function.comp_def]
      exact congrArg _ (funext fun _ => opt_comm (β := Unit) _ _ _)

/-- what the decoder returns is the typing of the frames the walk finds -/
theorem decodeAVPs_eq_ok {ty : Nat → Nat → Nat} {fuel : Nat} {b : Bytes} {as : List AVP} :
    decodeAVPs ty fuel b = .ok as ↔ ∃ fs, frames (isG ty) fuel b = .ok fs ∧ typedL ty fs = .ok as := by
  rw [← Res.toOpt_eq_some, (frame_equiv ty fuel).2 b, Res.toOpt_eq_some, Res.bindR_eq_ok]

end DV
