import Proofs.Basic
import Model.Stream
/-! The message header; what a body that decodes has passed. -/
namespace DV

theorem header_enc_length (h : Header) : h.enc.length = 20 := by simp [Header.enc]

theorem header_roundtrip (h : Header) (hv : h.version < 256) (hl : h.len < 16777216) (hf : h.flags < 256)
    (hc : h.cmd < 16777216) (ha : h.app < 4294967296) (hh : h.hbh < 4294967296) (he : h.e2e < 4294967296) :
    decodeHeader h.enc = .ok h := by
  -- each field is read back from where `Header.enc` puts it: evaluation of `drop`, `take`, `getD` on the 20 octets
  -- (appends nested to the right first, so that each slice is found in one pass)
  have e : decodeHeader h.enc = .ok ⟨(UInt8.ofNat h.version).toNat, rd (be 3 h.len), (UInt8.ofNat h.flags).toNat,
      rd (be 3 h.cmd), rd (be 4 h.app), rd (be 4 h.hbh), rd (be 4 h.e2e)⟩ := by
    rw [decodeHeader, header_enc_length, if_neg (Nat.lt_irrefl 20)]
    simp only [Header.enc, List.append_assoc, List.cons_append, List.nil_append]
    rfl
  rw [e, rd_be_of_lt (k := 3) hl, rd_be_of_lt (k := 3) hc, rd_be_of_lt (k := 4) ha, rd_be_of_lt (k := 4) hh,
    rd_be_of_lt (k := 4) he, UInt8.toNat_ofNat_of_lt' hv, UInt8.toNat_ofNat_of_lt' hf]

/-- the header image: decoding 20 octets and serialising the result gives them back -/
theorem header_image (b : Bytes) (h20 : b.length = 20) (h : Header) (hd : decodeHeader b = .ok h) :
    h.enc = b := by
  rw [decodeHeader, if_neg (by omega)] at hd
  cases hd
  have g (i : Nat) (hi : i < 20) : [UInt8.ofNat (b.getD i 0).toNat] = (b.drop i).take 1 := by
    rw [take1_drop b i (by omega)]; simp
  simp only [Header.enc]
  rw [be_rd_take b 1 3 (by omega), be_rd_take b 5 3 (by omega), be_rd_take b 8 4 (by omega),
    be_rd_take b 12 4 (by omega), be_rd_take b 16 4 (by omega), g 0 (by omega), g 4 (by omega)]
  -- 20 written as the sum of the field widths: `List.take_add` then cuts the prefix into the fields
  have d20 : b = b.take (1 + 3 + 1 + 3 + 4 + 4 + 4) := (List.take_of_length_le (by omega)).symm
  conv => rhs; rw [d20]
  simp only [List.take_add, List.drop_zero]

theorem decodeHeader_ok_iff {b : Bytes} : (∃ h, decodeHeader b = .ok h) ↔ 20 ≤ b.length := by
  rw [decodeHeader]
  split
  · exact iff_of_false (fun ⟨_, e⟩ => nomatch e) (by omega)
  · exact iff_of_true ⟨_, rfl⟩ (by omega)

theorem decodeHeader_take {bs : Bytes} (h : 20 ≤ bs.length) : ∃ hd, decodeHeader (bs.take 20) = .ok hd :=
  decodeHeader_ok_iff.mpr (by rw [List.length_take]; omega)

theorem decodeBody_eq_msg {d : DictFn} {h : Header} {body : Bytes} {m : Msg} :
    decodeBody d h body = .msg m ↔
      ∃ r, d.cmdRules h.app h.cmd = some r ∧ (if isRequest h.flags then r.1 else r.2) ≠ 0 ∧ h = m.hdr ∧
        decodeAVPs (d.avpType h.app) (body.length + 1) body = .ok m.avps ∧ invalidStream = m.stream := by
  obtain ⟨mh, mas, ms⟩ := m
  unfold decodeBody
  cases d.cmdRules h.app h.cmd with
  | none => simp
  | some r =>
    by_cases hn : (if isRequest h.flags then r.1 else r.2) = 0
    · simp [hn]
    · cases decodeAVPs (d.avpType h.app) (body.length + 1) body <;> simp [hn]

/-- `Message.Answer` in closed form -/
theorem Msg.answer_eq (m : Msg) (rc r1 r2 : Nat) :
    m.answer rc r1 r2 =
      { hdr := { version := 1, len := if rc ≠ 0 then 32 else 20,
                 flags := if isRequest m.hdr.flags then m.hdr.flags - 128 else m.hdr.flags,
                 cmd := m.hdr.cmd, app := m.hdr.app, hbh := m.hdr.hbh, e2e := m.hdr.e2e },
        avps := if rc ≠ 0 then [newAVP 268 64 0 (.fix T.u32 (rc % 4294967296))] else [],
        stream := m.stream } := by
  unfold Msg.answer newMessage Msg.addAVP
  by_cases h : rc ≠ 0 <;> simp [h] <;> rfl

end DV
