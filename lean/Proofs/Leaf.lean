import Model.Codec
import Spec.Wire
import Spec.Canon
import Spec.Rfc
import Proofs.Basic
/-!
  The data formats, one at a time. `T.cases` splits a type id into the seven classes that
  `datatype.Decode` tells apart; `decodeLeaf_*` and `wfPayload_*` say what the decoder and the
  well-formedness test do on each class. Every statement about leaves is a case list over these.
-/
namespace DV
open DV.Spec

/-- type ids whose value is the payload itself -/
abbrev T.isStr (t : Nat) : Prop :=
  t = T.unknown ∨ t = T.ident ∨ t = T.uri ∨ t = T.ipfilter ∨ t = T.octets ∨ t = T.qos ∨ t = T.utf8

/-- type ids of the fixed-width numbers (`fixW t` octets) -/
abbrev T.isFix (t : Nat) : Prop :=
  t = T.enum ∨ t = T.f32 ∨ t = T.i32 ∨ t = T.u32 ∨ t = T.f64 ∨ t = T.i64 ∨ t = T.u64

/-- type ids without a decoder (Grouped among them: the caller handles it) -/
def T.isOther (t : Nat) : Prop :=
  ¬ T.isStr t ∧ t ≠ T.address ∧ ¬ T.isFix t ∧ t ≠ T.ipv4 ∧ t ≠ T.ipv6 ∧ t ≠ T.time

theorem T.cases {motive : Nat → Prop} (t : Nat)
    (str : T.isStr t → motive t) (addr : motive T.address) (fix : T.isFix t → motive t)
    (ip4 : motive T.ipv4) (ip6 : motive T.ipv6) (time : motive T.time)
    (other : T.isOther t → motive t) : motive t := by
  by_cases h1 : T.isStr t; · exact str h1
  by_cases h2 : t = T.address; · exact h2 ▸ addr
  by_cases h3 : T.isFix t; · exact fix h3
  by_cases h4 : t = T.ipv4; · exact h4 ▸ ip4
  by_cases h5 : t = T.ipv6; · exact h5 ▸ ip6
  by_cases h6 : t = T.time; · exact h6 ▸ time
  exact other ⟨h1, h2, h3, h4, h5, h6⟩

theorem T.isStr.ne_grouped {t : Nat} (h : T.isStr t) : t ≠ T.grouped := by
  rintro rfl; revert h; decide

theorem T.isFix.ne_grouped {t : Nat} (h : T.isFix t) : t ≠ T.grouped := by
  rintro rfl; revert h; decide

theorem fixW_mod4 (t : Nat) : fixW t % 4 = 0 := by
  unfold fixW; split <;> rfl

/-- `DecodeTime`, as Unix seconds -/
def decodeTime (p : Bytes) : Int :=
  if p.length ≠ 4 then zeroTimeUnix
  else if rd p < 2147483648 then (rd p : Int) + rfc2030 else (rd p : Int) - rfc868

theorem decodeLeaf_str {t : Nat} (h : T.isStr t) (p : Bytes) : decodeLeaf t p = .ok (.str t p) := by
  rw [decodeLeaf, if_pos h]

theorem decodeLeaf_fix {t : Nat} (h : T.isFix t) (p : Bytes) :
    decodeLeaf t p = .ok (.fix t (if p.length = fixW t then rd p else 0)) := by
  rcases h with rfl | rfl | rfl | rfl | rfl | rfl | rfl <;> rfl

theorem decodeLeaf_ipv4 (p : Bytes) :
    decodeLeaf T.ipv4 p = .ok (.ip4 (if p.length = 4 then p else zeros 4)) := rfl

theorem decodeLeaf_ipv6 (p : Bytes) :
    decodeLeaf T.ipv6 p = .ok (.ip6 (if p.length = 16 then p else zeros 16)) := rfl

theorem decodeLeaf_time (p : Bytes) : decodeLeaf T.time p = .ok (.time (decodeTime p)) := by
  simp only [decodeTime, apply_ite Val.time, apply_ite (Res.ok (α := Val))]
  rfl

theorem decodeLeaf_other {t : Nat} (h : T.isOther t) (p : Bytes) :
    decodeLeaf t p = .err "unknown-data-type" := by
  obtain ⟨h1, h2, h3, h4, h5, h6⟩ := h
  simp only [T.isFix, not_or] at h3
  simp only [decodeLeaf, if_neg h1, if_neg h2, h3, or_self, if_false, if_neg h4, if_neg h5, if_neg h6]

theorem wfPayload_fix {t : Nat} (h : T.isFix t) (p : Bytes) : wfPayload t p = decide (p.length = fixW t) := by
  rcases h with rfl | rfl | rfl | rfl | rfl | rfl | rfl <;> rfl

theorem wfPayload_ipv4 (p : Bytes) : wfPayload T.ipv4 p = decide (p.length = 4) := rfl
theorem wfPayload_ipv6 (p : Bytes) : wfPayload T.ipv6 p = decide (p.length = 16) := rfl
theorem wfPayload_time (p : Bytes) : wfPayload T.time p = decide (p.length = 4) := rfl

theorem wfPayload_other {t : Nat} (h : T.isOther t) (p : Bytes) : wfPayload t p = false := by
  obtain ⟨h1, h2, h3, h4, h5, h6⟩ := h
  simp only [T.isFix, not_or] at h3
  simp only [wfPayload, h3, h4, h5, h6, or_self, if_false, if_neg h1, if_neg h2]

/-- the octets `DecodeAddress` keeps: the family goes for IPv4 and IPv6 -/
def addrBody (p : Bytes) : Bytes := if rd (p.take 2) = 1 ∨ rd (p.take 2) = 2 then p.drop 2 else p

theorem wfPayload_address (p : Bytes) : wfPayload T.address p =
    decide (p.length ≥ 3 ∧ rd (p.take 2) ≠ 0 ∧ rd (p.take 2) ≠ 65535 ∧
      (rd (p.take 2) = 1 → p.length = 6) ∧ (rd (p.take 2) = 2 → p.length = 18)) := rfl

/-- `DecodeAddress` accepts exactly the well-formed Address payloads -/
theorem decodeLeaf_address (p : Bytes) :
    (wfPayload T.address p = true ∧ decodeLeaf T.address p = .ok (.addr (addrBody p))) ∨
    (wfPayload T.address p = false ∧ ∃ e, decodeLeaf T.address p = .err e) := by
  rw [decodeLeaf, if_neg (by decide), if_pos rfl]
  dsimp only
  rw [wfPayload_address, addrBody]
  generalize rd (p.take 2) = fam
  by_cases h1 : p.length < 3
  · exact .inr ⟨decide_eq_false (by omega), _, if_pos h1⟩
  rw [if_neg h1]
  by_cases h2 : fam = 0 ∨ fam = 65535
  · exact .inr ⟨decide_eq_false (by omega), _, if_pos h2⟩
  rw [if_neg h2]
  by_cases h3 : fam = 1
  · subst h3
    by_cases h4 : p.length - 2 ≠ 4
    · exact .inr ⟨decide_eq_false (by omega), _, by rw [if_pos rfl, if_pos h4]⟩
    · exact .inl ⟨decide_eq_true (by omega), by rw [if_pos rfl, if_neg h4, if_pos (.inl rfl)]⟩
  rw [if_neg h3]
  by_cases h5 : fam = 2
  · subst h5
    by_cases h6 : p.length - 2 ≠ 16
    · exact .inr ⟨decide_eq_false (by omega), _, by rw [if_pos rfl, if_pos h6]⟩
    · exact .inl ⟨decide_eq_true (by omega), by rw [if_pos rfl, if_neg h6, if_pos (.inr rfl)]⟩
  rw [if_neg h5]
  exact .inl ⟨decide_eq_true (by omega), by rw [if_neg (by omega)]⟩

theorem decodeLeaf_address_of_wf {p : Bytes} (hw : wfPayload T.address p = true) :
    decodeLeaf T.address p = .ok (.addr (addrBody p)) := by
  rcases decodeLeaf_address p with ⟨-, h⟩ | ⟨h, -⟩
  · exact h
  · rw [h] at hw; cases hw

theorem decodeLeaf_address_ok {p : Bytes} {v : Val} (h : decodeLeaf T.address p = .ok v) : v = .addr (addrBody p) := by
  rcases decodeLeaf_address p with ⟨-, h'⟩ | ⟨-, _, h'⟩
  · exact Res.ok.inj (h.symm.trans h')
  · rw [h'] at h; cases h

theorem isV4Mapped_of_length {b : Bytes} (h : b.length ≠ 16) : isV4Mapped b = false :=
  decide_eq_false fun hm => h hm.1

theorem to4_len4 {b : Bytes} (h : b.length = 4) : to4 b = some b := if_pos h
theorem to4_mapped {b : Bytes} (hm : isV4Mapped b = true) : to4 b = some (b.drop 12) := by
  rw [isV4Mapped, decide_eq_true_eq] at hm
  rw [to4, if_neg (by omega), if_pos hm]
theorem to4_none {b : Bytes} (h4 : b.length ≠ 4) (hm : isV4Mapped b = false) : to4 b = none := by
  rw [isV4Mapped, decide_eq_false_iff_not] at hm
  rw [to4, if_neg h4, if_neg hm]
theorem to16_len16 {b : Bytes} (h : b.length = 16) : to16 b = some b := by
  rw [to16, if_neg (by omega), if_pos h]
theorem to16_none {b : Bytes} (h4 : b.length ≠ 4) (h16 : b.length ≠ 16) : to16 b = none := by
  rw [to16, if_neg h4, if_neg h16]

/-- unless it holds an IPv4-mapped IPv6 address, an Address value is written as RFC 6733 says -/
theorem addr_ser {b : Bytes} (hm : isV4Mapped b = false) :
    (Val.addr b).ser = addrOctets b ∧ addrLen b = (addrOctets b).length := by
  unfold Val.ser addrLen addrOctets
  by_cases h4 : b.length = 4
  · simp [to4_len4 h4, h4]
  by_cases h16 : b.length = 16
  · simp [to4_none h4 hm, to16_len16 h16, h16]
  · simp [to4_none h4 hm, to16_none h4 h16, h4, h16]

/-- whatever octets an Address value holds, it is written into exactly `Len()` octets: the RFC image
    (`addr_ser`), or family 1 and the last four octets of an IPv4-mapped address -/
theorem addr_fits (b : Bytes) : (Val.addr b).ser.length = (Val.addr b).len := by
  cases hm : isV4Mapped b
  · obtain ⟨hs, hl⟩ := addr_ser hm
    rw [hs, Val.len, hl]
  · rw [Val.ser, Val.len, addrLen, to4_mapped hm]
    rw [isV4Mapped, decide_eq_true_eq] at hm
    simp [hm.1]

/-- a payload of two octets or more is its family followed by the rest -/
theorem family_split {p : Bytes} {n : Nat} (hl : 2 ≤ p.length) (h : rd (p.take 2) = n) :
    be 2 n ++ p.drop 2 = p := by
  rw [← h, be_rd_of_length (by rw [List.length_take]; omega), List.take_append_drop]

/-- outside the three ambiguous shapes, writing what `DecodeAddress` kept gives the payload back -/
theorem addrBody_image {p : Bytes} (hw : wfPayload T.address p = true) (hx : addrAmbiguous p = false) :
    isV4Mapped (addrBody p) = false ∧ addrOctets (addrBody p) = p := by
  rw [wfPayload_address, decide_eq_true_eq] at hw
  obtain ⟨h3, -, -, h1, h2⟩ := hw
  simp only [addrAmbiguous, decide_eq_false_iff_not, not_or] at hx
  obtain ⟨hx2, hxo⟩ := hx
  unfold addrBody addrOctets
  by_cases f1 : rd (p.take 2) = 1
  · have hl : (p.drop 2).length = 4 := by rw [List.length_drop, h1 f1]
    rw [if_pos (.inl f1), if_pos hl]
    exact ⟨isV4Mapped_of_length (by omega), family_split (by omega) f1⟩
  by_cases f2 : rd (p.take 2) = 2
  · have hl : (p.drop 2).length = 16 := by rw [List.length_drop, h2 f2]
    rw [if_pos (.inr f2), if_neg (by omega), if_pos hl]
    exact ⟨Bool.eq_false_iff.mpr fun hm => hx2 ⟨f2, hm⟩, family_split (by omega) f2⟩
  · rw [if_neg (by omega), if_neg (by omega), if_neg (by omega)]
    exact ⟨isV4Mapped_of_length (by omega), rfl⟩

theorem encTime_length (u : Int) : (encTime u).length = 4 := be_length 4 _

theorem encTime_decodeTime {p : Bytes} (h : p.length = 4) : encTime (decodeTime p) = p := by
  have hn := rd_lt_of_length h
  rw [decodeTime, if_neg (by omega), encTime]
  refine .trans (congrArg (be 4) ?_) (be_rd_of_length h)
  simp only [rfc2030, rfc868]
  split <;> omega

/-- the two-era window: 1968-01-20 03:14:08Z up to 2104-02-26 09:42:24Z -/
theorem decodeTime_encTime {u : Int} (h1 : -61505152 ≤ u) (h2 : u < 4233462144) :
    decodeTime (encTime u) = u := by
  rw [decodeTime, if_neg (fun h => h (encTime_length u)), encTime, rd_be_of_lt (by omega)]
  generalize hN : ((u + (rfc868 : Int)) % 4294967296).toNat = N
  have hu : (N : Int) = (u + 2208988800) % 4294967296 := by rw [← hN, rfc868]; omega
  by_cases h : N < 2147483648
  · rw [if_pos h, rfc2030]; omega
  · rw [if_neg h, rfc868]; omega

theorem decodeLeaf_noPanic (t : Nat) (p : Bytes) : (decodeLeaf t p).isPanic = false := by
  cases t using T.cases with
  | str h => rw [decodeLeaf_str h]; rfl
  | addr => rcases decodeLeaf_address p with ⟨-, h⟩ | ⟨-, e, h⟩ <;> rw [h] <;> rfl
  | fix h => rw [decodeLeaf_fix h]; rfl
  | ip4 => rfl
  | ip6 => rfl
  | time => rw [decodeLeaf_time]; rfl
  | other h => rw [decodeLeaf_other h]; rfl

theorem leaf_wf_decodes (t : Nat) (p : Bytes) (hw : wfPayload t p = true) : ∃ d, decodeLeaf t p = .ok d := by
  cases t using T.cases with
  | str h => exact ⟨_, decodeLeaf_str h p⟩
  | addr => exact ⟨_, decodeLeaf_address_of_wf hw⟩
  | fix h => exact ⟨_, decodeLeaf_fix h p⟩
  | ip4 => exact ⟨_, rfl⟩
  | ip6 => exact ⟨_, rfl⟩
  | time => exact ⟨_, decodeLeaf_time p⟩
  | other h => rw [wfPayload_other h] at hw; cases hw

/-- a well-formed, unambiguous payload is decoded to a value that serialises to the payload,
    reports its length and asks for the padding that brings it to a multiple of four -/
theorem leaf_wire_rt (t : Nat) (p : Bytes) (d : Val)
    (hw : wfPayloadX t p = true) (hd : decodeLeaf t p = .ok d) :
    d.ser = p ∧ d.len = p.length ∧ d.padding = pad4 p.length - p.length := by
  rw [wfPayloadX, Bool.and_eq_true] at hw
  obtain ⟨hw, hx⟩ := hw
  cases t using T.cases with
  | str h =>
    rw [decodeLeaf_str h] at hd; cases hd
    exact ⟨rfl, rfl, if_neg h.ne_grouped⟩
  | addr =>
    rw [decodeLeaf_address_of_wf hw] at hd; cases hd
    obtain ⟨hm, hp⟩ := addrBody_image hw (by simpa using hx)
    obtain ⟨hs, hl⟩ := addr_ser hm
    rw [hp] at hs hl
    exact ⟨hs, hl, by rw [Val.padding, hl]⟩
  | fix h =>
    rw [wfPayload_fix h, decide_eq_true_eq] at hw
    rw [decodeLeaf_fix h, if_pos hw] at hd; cases hd
    exact ⟨be_rd_of_length hw, hw.symm, (pad4_sub_of_mod (hw ▸ fixW_mod4 t)).symm⟩
  | ip4 =>
    rw [wfPayload_ipv4, decide_eq_true_eq] at hw
    rw [decodeLeaf_ipv4, if_pos hw] at hd; cases hd
    exact ⟨by rw [Val.ser, to4_len4 hw], hw.symm, (pad4_sub_of_mod (by rw [hw])).symm⟩
  | ip6 =>
    rw [wfPayload_ipv6, decide_eq_true_eq] at hw
    rw [decodeLeaf_ipv6, if_pos hw] at hd; cases hd
    exact ⟨by rw [Val.ser, to16_len16 hw], hw.symm, (pad4_sub_of_mod (by rw [hw])).symm⟩
  | time =>
    rw [wfPayload_time, decide_eq_true_eq] at hw
    rw [decodeLeaf_time] at hd; cases hd
    exact ⟨encTime_decodeTime hw, hw.symm, (pad4_sub_of_mod (by rw [hw])).symm⟩
  | other h => rw [wfPayload_other h] at hw; cases hw

/-- what `canonVal` asks of an Address value -/
abbrev canonAddr (b : Bytes) : Prop :=
  b.length = 4 ∨ (b.length = 16 ∧ ¬ isV4Mapped b) ∨
    (b.length ≥ 3 ∧ b.length ≠ 4 ∧ b.length ≠ 16 ∧
      (rd (b.take 2) ≠ 0 ∧ rd (b.take 2) ≠ 1 ∧ rd (b.take 2) ≠ 2 ∧ rd (b.take 2) ≠ 65535))

theorem canonAddr.notMapped {b : Bytes} (h : canonAddr b) : isV4Mapped b = false := by
  rcases h with h | ⟨-, h⟩ | ⟨-, -, h, -⟩
  · exact isV4Mapped_of_length (by omega)
  · exact Bool.eq_false_iff.mpr h
  · exact isV4Mapped_of_length h

/-- the RFC image of a canonical Address value is well formed and decodes to the value -/
theorem canonAddr.image {b : Bytes} (h : canonAddr b) :
    wfPayload T.address (addrOctets b) = true ∧ addrBody (addrOctets b) = b := by
  rw [wfPayload_address, addrBody, addrOctets]
  rcases h with h | ⟨h, -⟩ | ⟨h3, h4, h16, hf⟩
  · simp [h, rd]
  · simp [h, rd]
  · simp only [if_neg h4, if_neg h16, decide_eq_true_eq]
    exact ⟨⟨h3, hf.1, hf.2.2.2, fun e => absurd e hf.2.1, fun e => absurd e hf.2.2.1⟩,
      if_neg (by omega)⟩

theorem canonAVP_iff {c f l v : Nat} {d : Val} : canonAVP (.mk c f l v d) = true ↔
    c < 4294967296 ∧ f < 256 ∧ v < 4294967296 ∧ (hasV f = true ∨ v = 0) ∧ canonVal d = true := by
  simp only [canonAVP, hasV, Bool.and_eq_true, decide_eq_true_eq, Bool.decide_and, Bool.decide_or,
    Bool.or_eq_true]

theorem canonVal_of_canonAVP {c f l v : Nat} {d : Val} (h : canonAVP (.mk c f l v d) = true) : canonVal d = true :=
  (canonAVP_iff.mp h).2.2.2.2

theorem canonVal_str {t : Nat} {b : Bytes} : canonVal (.str t b) = true ↔ T.isStr t := by
  rw [canonVal, decide_eq_true_eq]
theorem canonVal_addr {b : Bytes} : canonVal (.addr b) = true ↔ canonAddr b := by
  rw [canonVal, decide_eq_true_eq]
theorem canonVal_ip4 {b : Bytes} : canonVal (.ip4 b) = true ↔ b.length = 4 := by
  rw [canonVal, decide_eq_true_eq]
theorem canonVal_ip6 {b : Bytes} : canonVal (.ip6 b) = true ↔ b.length = 16 := by
  rw [canonVal, decide_eq_true_eq]
theorem canonVal_fix {t n : Nat} : canonVal (.fix t n) = true ↔ T.isFix t ∧ n < 256 ^ fixW t := by
  rw [canonVal, decide_eq_true_eq]; rfl
theorem canonVal_time {u : Int} : canonVal (.time u) = true ↔ -61505152 ≤ u ∧ u < 4233462144 := by
  rw [canonVal, decide_eq_true_eq]

theorem leaf_roundtrip {d : Val} (hc : canonVal d = true) (hng : ∀ as, d ≠ .group as) :
    decodeLeaf (dictTypeOf d) d.ser = .ok d := by
  cases d with
  | group as => exact absurd rfl (hng as)
  | str t b => exact decodeLeaf_str (canonVal_str.mp hc) b
  | addr b =>
    have hc := canonVal_addr.mp hc
    obtain ⟨hw, hb⟩ := hc.image
    rw [(addr_ser hc.notMapped).1, dictTypeOf, decodeLeaf_address_of_wf hw, hb]
  | ip4 b =>
    have hl := canonVal_ip4.mp hc
    rw [dictTypeOf, Val.ser, to4_len4 hl, decodeLeaf_ipv4, if_pos hl]
  | ip6 b =>
    have hl := canonVal_ip6.mp hc
    rw [dictTypeOf, Val.ser, to16_len16 hl, decodeLeaf_ipv6, if_pos hl]
  | fix t n =>
    obtain ⟨ht, hn⟩ := canonVal_fix.mp hc
    rw [dictTypeOf, Val.ser, decodeLeaf_fix ht, be_length, if_pos rfl, rd_be_of_lt hn]
  | time u =>
    obtain ⟨h1, h2⟩ := canonVal_time.mp hc
    rw [dictTypeOf, Val.ser, decodeLeaf_time, decodeTime_encTime h1 h2]

theorem dictTypeOf_ne_grouped {d : Val} (hc : canonVal d = true) (hng : ∀ as, d ≠ .group as) :
    dictTypeOf d ≠ T.grouped := by
  cases d with
  | group as => exact absurd rfl (hng as)
  | str t b => exact (canonVal_str.mp hc).ne_grouped
  | fix t n => exact (canonVal_fix.mp hc).1.ne_grouped
  | _ => rw [dictTypeOf]; decide

end DV
