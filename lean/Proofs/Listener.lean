import Model.Listener
/-! The accept loop keeps accepting through any number of temporary errors. -/
namespace DV

/-- invariant of the accept loop while no permanent error has occurred -/
structure LInv (s : LS) (oks : Nat) : Prop where
  running : s.running = true
  open_ : s.lclosed = false
  spawned : s.spawned = oks
  delayCap : s.delay ≤ Gen.acceptBackoffMaxMs
  sleeps : ∀ x ∈ s.slept, Gen.acceptBackoffFirstMs ≤ x ∧ x ≤ Gen.acceptBackoffMaxMs

/-! `capDelay x` is the smaller of `x` and the cap -/

theorem capDelay_le (x : Nat) : capDelay x ≤ Gen.acceptBackoffMaxMs := by
  fun_cases capDelay x
  next => exact Nat.le_refl _
  next h => exact Nat.le_of_not_gt h

theorem le_capDelay {a x : Nat} (hm : a ≤ Gen.acceptBackoffMaxMs) (hx : a ≤ x) : a ≤ capDelay x := by
  fun_cases capDelay x <;> assumption

section
variable {s : LS} (h : s.running = true)
include h

theorem LS.step_acceptOk : s.step .acceptOk = some { s with delay := 0, spawned := s.spawned + 1 } :=
  if_neg (not_not_intro h)

theorem LS.step_acceptTemp :
    s.step .acceptTemp = some { s with delay := nextDelay s.delay, slept := s.slept ++ [nextDelay s.delay] } :=
  if_neg (not_not_intro h)

theorem LS.step_acceptPerm : s.step .acceptPerm = some { s with running := false, lclosed := true } :=
  if_neg (not_not_intro h)

end

def countOk : List LEv → Nat
  | [] => 0
  | .acceptOk :: es => countOk es + 1
  | _ :: es => countOk es

theorem countOk_cons : ∀ (e : LEv) (es : List LEv), countOk (e :: es) = countOk [e] + countOk es
  | .acceptOk, es => Nat.add_comm (countOk es) 1
  | .acceptTemp, es | .acceptPerm, es => (Nat.zero_add (countOk es)).symm

section
variable (hf : Gen.acceptBackoffFirstMs ≤ Gen.acceptBackoffMaxMs) (h2 : 1 ≤ Gen.acceptBackoffFactor)
include hf h2

theorem nextDelay_bounds {dl : Nat} (hd : dl = 0 ∨ Gen.acceptBackoffFirstMs ≤ dl) :
    Gen.acceptBackoffFirstMs ≤ nextDelay dl ∧ nextDelay dl ≤ Gen.acceptBackoffMaxMs := by
  refine ⟨le_capDelay hf ?_, capDelay_le _⟩
  split
  next => exact Nat.le_refl _
  next h0 => exact Nat.le_trans (hd.resolve_left h0) (Nat.le_mul_of_pos_right dl h2)

/-- Any event but a permanent error is enabled and keeps the invariant. The back-off delay is zero (after an
    accepted connection) or at least the first delay, which is what bounds the next sleep from below. -/
theorem LInv.step {s : LS} {n : Nat} (hi : LInv s n) (hd : s.delay = 0 ∨ Gen.acceptBackoffFirstMs ≤ s.delay) :
    ∀ e, e ≠ .acceptPerm →
      ∃ s', s.step e = some s' ∧ LInv s' (n + countOk [e]) ∧ (s'.delay = 0 ∨ Gen.acceptBackoffFirstMs ≤ s'.delay)
  | .acceptOk, _ =>
    ⟨_, LS.step_acceptOk hi.running,
      { hi with spawned := congrArg (· + 1) hi.spawned, delayCap := Nat.zero_le _ }, .inl rfl⟩
  | .acceptTemp, _ =>
    have hb := nextDelay_bounds hf h2 hd
    ⟨_, LS.step_acceptTemp hi.running,
      { hi with
        delayCap := hb.2
        sleeps := List.forall_mem_append.2 ⟨hi.sleeps, List.forall_mem_singleton.2 hb⟩ },
      .inr hb.1⟩
  | .acceptPerm, he => absurd rfl he

theorem LS_run_noperm (es : List LEv) (s : LS) (n : Nat) (hi : LInv s n)
    (hd : s.delay = 0 ∨ Gen.acceptBackoffFirstMs ≤ s.delay) (hp : LEv.acceptPerm ∉ es) :
    ∃ s', s.run es = some s' ∧ LInv s' (n + countOk es) ∧ (s'.delay = 0 ∨ Gen.acceptBackoffFirstMs ≤ s'.delay) := by
  induction es generalizing s n with
  | nil => exact ⟨s, rfl, hi, hd⟩
  | cons e es ih =>
    obtain ⟨s1, h1, i1, d1⟩ := hi.step hf h2 hd e fun he => hp (he ▸ List.mem_cons_self)
    obtain ⟨s', r, i', d'⟩ := ih s1 _ i1 d1 fun h => hp (List.mem_cons_of_mem _ h)
    rw [Nat.add_assoc, ← countOk_cons] at i'
    exact ⟨s', by rw [LS.run, h1]; exact r, i', d'⟩

end

end DV
