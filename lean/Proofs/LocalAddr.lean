import Model.LocalAddr
/-! Which addresses `getLocalAddresses` advertises (C11). -/
namespace DV

theorem mem_addrs {hosts : List HostEntry} {b : Bytes} :
    b ∈ hosts.filterMap HostEntry.addr? ↔ HostEntry.ip b ∈ hosts := by
  rw [List.mem_filterMap]
  constructor
  · rintro ⟨e, he, hea⟩
    cases e <;> cases hea
    exact he
  · exact fun h => ⟨_, h, rfl⟩

/-- With a port that parses, something is always advertised: the non-loopback addresses if there are any;
    otherwise every address is a loopback address and the last of them, if there is one, is taken. -/
theorem getLocalAddresses_true (hosts : List HostEntry) :
    ∃ as, getLocalAddresses true hosts = some as ∧
      ((as ≠ [] ∧ as = (hosts.filterMap HostEntry.addr?).filter (fun b => ¬ isLoopbackIP b)) ∨
       ((∀ b ∈ hosts.filterMap HostEntry.addr?, isLoopbackIP b = true) ∧
         as = (hosts.filterMap HostEntry.addr?).getLast?.toList)) := by
  unfold getLocalAddresses
  rw [if_neg (not_not_intro rfl)]
  generalize hosts.filterMap HostEntry.addr? = ips
  dsimp only
  split
  next hemp =>
    have hall : ∀ b ∈ ips, isLoopbackIP b = true := by
      simpa using List.filter_eq_nil_iff.1 (List.isEmpty_iff.1 hemp)
    rw [List.filter_eq_self.2 hall]
    cases ips.getLast? <;> exact ⟨_, rfl, .inr ⟨hall, rfl⟩⟩
  next hne => exact ⟨_, rfl, .inl ⟨fun h0 => hne (h0 ▸ rfl), rfl⟩⟩

/-- whatever is advertised is an address of the endpoint -/
theorem localAddrs_sound (hosts : List HostEntry) (as : List Bytes)
    (h : getLocalAddresses true hosts = some as) : ∀ a ∈ as, HostEntry.ip a ∈ hosts := by
  obtain ⟨_, h', hc⟩ := getLocalAddresses_true hosts
  cases h.symm.trans h'
  intro a ha
  rcases hc with ⟨_, e⟩ | ⟨_, e⟩ <;> rw [e] at ha
  · exact mem_addrs.1 (List.mem_filter.1 ha).1
  · exact mem_addrs.1 (List.mem_of_getLast? (Option.mem_toList.1 ha))

/-- an endpoint with at least one parseable address (and a port that parses) is advertised with
    at least one Host-IP-Address -/
theorem localAddrs_nonempty (hosts : List HostEntry) (b : Bytes) (hb : HostEntry.ip b ∈ hosts) :
    ∃ as, getLocalAddresses true hosts = some as ∧ as ≠ [] := by
  obtain ⟨as, h, ⟨hne, _⟩ | ⟨_, e⟩⟩ := getLocalAddresses_true hosts
  · exact ⟨as, h, hne⟩
  · rw [List.getLast?_eq_some_getLast (List.ne_nil_of_mem (mem_addrs.2 hb))] at e
    exact ⟨as, h, e ▸ nofun⟩

/-- a loopback address is advertised only when the endpoint has nothing else -/
theorem localAddrs_loopback_last_resort (hosts : List HostEntry) (as : List Bytes) (a : Bytes)
    (h : getLocalAddresses true hosts = some as) (ha : a ∈ as) (hl : isLoopbackIP a = true) :
    ∀ b, HostEntry.ip b ∈ hosts → isLoopbackIP b = true := by
  obtain ⟨_, h', hc⟩ := getLocalAddresses_true hosts
  cases h.symm.trans h'
  rcases hc with ⟨_, e⟩ | ⟨hall, _⟩
  · rw [e] at ha
    simpa [hl] using (List.mem_filter.1 ha).2
  · exact fun b hb => hall b (mem_addrs.2 hb)

end DV
