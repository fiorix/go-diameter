import Model.Mux
import Spec.Dispatch
/-! `Model.Mux`: the maps `Mux.reg` builds answer a lookup with the last matching registration, so
    `Mux.dispatch` is the decision table `Spec.dispatch` (C09); facts about `lastReg`. -/
namespace DV
open DV.Spec

/-- the last registration that `p` accepts is the first one in reverse order -/
theorem lastReg_eq (p : Reg → Option Nat) : ∀ rs, lastReg p rs = rs.reverse.findSome? p
  | [] => rfl
  | r :: rs => by
    rw [lastReg, lastReg_eq p rs, List.reverse_cons, List.findSome?_append]
    cases rs.reverse.findSome? p <;> simp

theorem lastReg_append (p : Reg → Option Nat) (xs ys : List Reg) :
    lastReg p (xs ++ ys) = (match lastReg p ys with | some h => some h | none => lastReg p xs) := by
  simp only [lastReg_eq, List.reverse_append, List.findSome?_append]
  cases ys.reverse.findSome? p <;> rfl

theorem lastReg_none (p : Reg → Option Nat) (l : List Reg) (h : ∀ r ∈ l, p r = none) : lastReg p l = none := by
  rw [lastReg_eq, List.findSome?_eq_none_iff]
  exact fun r hr => h r (List.mem_reverse.mp hr)

theorem lastReg_mem (p : Reg → Option Nat) (rs : List Reg) (h : Nat) (hh : lastReg p rs = some h) :
    ∃ r ∈ rs, p r = some h := by
  rw [lastReg_eq] at hh
  obtain ⟨r, hr, e⟩ := List.exists_of_findSome?_eq_some hh
  exact ⟨r, List.mem_reverse.mp hr, e⟩

/-- the entry a registration puts into the index map -/
def idxEnt : Reg → Option ((Nat × Nat × Bool) × Nat)
  | .idx a c q h => some ((a, c, q), h)
  | .all h => some (allIdx, h)
  | .name .. => none

/-- ... and into the name map -/
def nameEnt : Reg → Option ((Nat × Nat) × Nat)
  | .name s x h => some ((s, x), h)
  | _ => none

/-- the handler a registration stores under key `k`, if it stores one there -/
def hit [BEq κ] (ent : Reg → Option (κ × Nat)) (k : κ) (r : Reg) : Option Nat :=
  (ent r).bind fun e => if e.1 == k then some e.2 else none

/-- a map built by prepending answers a lookup with the LAST matching registration -/
theorem lookup_foldl [BEq κ] (proj : Mux → List (κ × Nat)) (ent : Reg → Option (κ × Nat))
    (hreg : ∀ mux r, proj (mux.reg r) = (ent r).toList ++ proj mux) (k : κ) : ∀ (rs : List Reg) (mux : Mux),
    alookup k (proj (rs.foldl Mux.reg mux)) =
      (match lastReg (hit ent k) rs with
       | some h => some h
       | none => alookup k (proj mux))
  | [], mux => rfl
  | r :: rs, mux => by
    simp only [List.foldl_cons, lastReg, lookup_foldl proj ent hreg k rs, hreg]
    cases lastReg (hit ent k) rs with
    | some h => rfl
    | none =>
      -- no later registration matches: `r` decides, if it stores under `k`
      unfold hit
      cases ent r with
      | none => rfl
      | some e => simp only [Option.toList, List.cons_append, List.nil_append, alookup, Option.bind_some]; split <;> rfl

theorem byIdx_eq (app code : Nat) (req : Bool) : byIdx app code req = hit idxEnt (app, code, req) := by
  funext r; cases r <;> simp [byIdx, idxEnt, hit]

theorem byAll_eq : byAll = hit idxEnt allIdx := by
  funext r; cases r <;> simp [byAll, idxEnt, hit]

theorem byName_eq (s : Nat) (req : Bool) : byName s req = hit nameEnt (s, if req then 0 else 1) := by
  funext r; cases r <;> simp [byName, nameEnt, hit]

theorem Mux.dispatch_eq (rs : List Reg) (short : Option Nat) (app code : Nat) (req : Bool) :
    (Mux.ofRegs rs).dispatch short app code req = Spec.dispatch rs short app code req := by
  have hI := fun k => lookup_foldl (·.idxMap) idxEnt (fun mux r => by cases r <;> rfl) k rs {}
  have hN := fun k => lookup_foldl (·.m) nameEnt (fun mux r => by cases r <;> rfl) k rs {}
  unfold Mux.dispatch Spec.dispatch Mux.catchAll Mux.ofRegs
  simp only [hI, hN, ← byAll_eq, ← byIdx_eq, ← byName_eq]
  cases short with
  | none => cases lastReg byAll rs <;> rfl
  | some s =>
    dsimp only
    cases lastReg (byIdx app code req) rs <;> cases lastReg (byName s req) rs <;> cases lastReg byAll rs <;> rfl

end DV
