import Model.ReadFull
/-! A buffer whose bytes all arrive is filled, however the Reads are cut and
    whether or not the last bytes come together with the end of the stream. -/
namespace DV

/-- the bytes the reader delivers up to and including the call that reports an error -/
def avail : List ReadRes → List UInt8
  | [] => []
  | (b, none) :: rs => b ++ avail rs
  | (b, some _) :: _ => b

theorem readFullStd_ok : ∀ (rs : List ReadRes) (want : Nat) (acc : List UInt8),
    want ≤ (avail rs).length → (readFullStd false want rs acc).1 = .ok (acc ++ (avail rs).take want)
  | [], want, acc, h => by
    cases Nat.le_zero.1 h
    rw [readFullStd, List.take_zero, List.append_nil]
  | _ :: _, 0, acc, _ => by rw [readFullStd, List.take_zero, List.append_nil]
  | (b, e) :: rs, want + 1, acc, h => by
    rw [readFullStd]
    by_cases hlong : b.length > want + 1
    · -- the Read fills the buffer: what it brings beyond `b` does not matter
      rw [if_pos hlong]
      cases e with
      | none => rw [avail, List.take_append_of_le_length (Nat.le_of_lt hlong)]
      | some _ => rfl
    · rw [if_neg hlong]
      have hle : b.length ≤ want + 1 := Nat.le_of_not_gt hlong
      cases e with
      | none =>
        rw [avail, List.length_append] at h
        have ih := readFullStd_ok rs (want + 1 - b.length) (acc ++ b) (Nat.sub_le_iff_le_add'.2 h)
        rw [avail, List.take_append, List.take_of_length_le hle, ← List.append_assoc, ← ih]
        -- an empty Read leaves `want` as it is: both branches are the same call
        dsimp only
        split
        next hb => rw [List.isEmpty_iff.1 hb]; rfl
        next => rfl
      | some err =>
        -- the last bytes come with the error: the buffer is full, the error is dropped
        have heq : b.length = want + 1 := Nat.le_antisymm hle h
        simp only [Bool.false_eq_true, if_false, heq, if_true]
        rw [avail, List.take_of_length_le (Nat.le_of_eq heq)]

end DV
