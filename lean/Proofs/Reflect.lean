import Model.Reflect
import Proofs.Basic
/-! Dictionary faithfulness of struct marshalling (C18). -/
namespace DV

def flagsOf (e : DEnt) : Nat := (if e.m then 64 else 0) + (if e.vendor > 0 then 128 else 0)

mutual
/-- no `diam.AVP`-typed field anywhere in the shape: such a field carries the caller's own AVP, which `Marshal`
    passes through as it is, dictionary-faithful or not -/
def Shape.noAVP : Shape → Bool
  | .avp => false
  | .leaf _ => true
  | .ptr s => s.noAVP
  | .slice s => s.noAVP
  | .struct fs => noAVPFields fs
def noAVPFields : List SField → Bool
  | [] => true
  | .mk _ s :: r => s.noAVP && noAVPFields r
end

mutual
/-- every AVP, at every depth, whose code the dictionary describes carries that entry's vendor
    id and the flags derived from it (M iff Must has M, V iff a vendor id), Length not yet set -/
def dictOK (byCode : Nat → Option DEnt) : AVP → Bool
  | .mk c f _ v d =>
    (match byCode c with
     | some e => decide (v = e.vendor) && decide (f = flagsOf e)
     | none => true) &&
    (match d with
     | .group as => dictOKL byCode as
     | _ => true)
def dictOKL (byCode : Nat → Option DEnt) : List AVP → Bool
  | [] => true
  | a :: r => dictOK byCode a && dictOKL byCode r
end

theorem dictOKL_append (byCode : Nat → Option DEnt) : ∀ (a b : List AVP),
    dictOKL byCode (a ++ b) = (dictOKL byCode a && dictOKL byCode b)
  | [], b => by simp [dictOKL]
  | x :: a, b => by simp [dictOKL, dictOKL_append byCode a b, Bool.and_assoc]

/-- no branch of `toData` builds a grouped value (`apply_ite`: `split` on the nested `if`s of
    `toData` doubles its work with every level) -/
theorem toData_not_group (ty : Nat) (ft : GoT) (v : GV) (kids : List AVP) : toData ty ft v ≠ some (.group kids) := by
  unfold toData
  cases v <;> simp only [apply_ite (· = some (Val.group kids)), reduceCtorEq, Option.some.injEq, ite_self,
    not_false_eq_true, ne_eq]

theorem isPtrAVP_eq : ∀ (s : Shape), s.isPtrAVP = true → s = .ptr .avp
  | .ptr .avp, _ => rfl

theorem isPtrAVP_noAVP (s : Shape) (h : s.noAVP = true) : s.isPtrAVP = false :=
  Bool.eq_false_iff.mpr fun e => by rw [isPtrAVP_eq s e] at h; simp [Shape.noAVP] at h

section
variable (find : FindFn) (byCode : Nat → Option DEnt)

/-- the group loop treats a field as `marshalStruct` treats a field that is not embedded -/
theorem marshalGroup_cons (tag : FieldTag) (s : Shape) (fs : List SField) (v : RV) (vs : List RV) :
    marshalGroup find (.mk tag s :: fs) (v :: vs) =
      (fieldOut find tag s v).bindR fun a => (marshalGroup find fs vs).mapR fun b => a ++ b := by
  simp only [marshalGroup, fieldOut]
  split
  · cases marshalGroup find fs vs <;> rfl
  · cases entOf find tag.name <;> rfl

/-- the AVP `marshal` builds for a field is as the dictionary says; what remains is its members -/
theorem dictOKL_mk {e : DEnt} (he : byCode e.code = some e) (d : Val) :
    dictOKL byCode [mkFieldAVP e d] = match d with | .group as => dictOKL byCode as | _ => true := by
  cases d <;> simp [dictOKL, dictOK, mkFieldAVP, he, flagsOf]

variable (hB : ∀ n e, entOf find n = some e → byCode e.code = some e)
include hB

/-- a field's AVPs are faithful if those built under the entry of its tag are -/
theorem fieldOut_faithful {tag : FieldTag} {s : Shape} {v : RV} {as : List AVP}
    (hf : ∀ e as, byCode e.code = some e → marshalField find s v e = .ok as → dictOKL byCode as = true)
    (h : fieldOut find tag s v = .ok as) : dictOKL byCode as = true := by
  unfold fieldOut at h
  split at h
  · cases h; rfl
  · cases he : entOf find tag.name with
    | none => simp [he] at h
    | some e => exact hf e as (hB _ e he) (by simpa only [he] using h)

mutual
theorem marshalField_faithful : ∀ (s : Shape) (v : RV) (e : DEnt) (as : List AVP), s.noAVP = true →
    byCode e.code = some e → marshalField find s v e = .ok as → dictOKL byCode as = true
  | s, .nil, _, as, _, _, h => by
    cases s <;> simp [marshalField] at h <;> subst h <;> rfl
  | s, .leaf v, e, as, _, he, h => by
    cases s with
    | leaf t =>
      simp only [marshalField] at h
      split at h
      · split at h <;> cases h
        exact dictOKL_mk byCode he _
      · split at h <;> cases h
        rename_i d hd
        rw [dictOKL_mk byCode he]
        cases d with
        | group kids => exact absurd hd (toData_not_group _ _ _ kids)
        | _ => rfl
    | _ => simp [marshalField] at h
  | s, .ptr v, e, as, hn, he, h => by
    cases s with
    | ptr s => exact marshalField_faithful s v e as (by simpa [Shape.noAVP] using hn) he (by simpa [marshalField] using h)
    | _ => simp [marshalField] at h
  | s, .slice vs, e, as, hn, he, h => by
    cases s with
    | slice s =>
      simp only [Shape.noAVP] at hn
      simp only [marshalField, isPtrAVP_noAVP s hn] at h
      exact marshalElems_faithful s vs e as hn he h
    | _ => simp [marshalField] at h
  | s, .struct vs, e, as, hn, he, h => by
    cases s with
    | struct fs =>
      simp only [marshalField] at h
      split at h
      · obtain ⟨kids, hg, rfl⟩ := Res.mapR_eq_ok.mp h
        rw [dictOKL_mk byCode he]
        exact marshalGroup_faithful fs vs kids (by simpa [Shape.noAVP] using hn) hg
      · cases h
    | _ => simp [marshalField] at h
  | s, .avp _, _, _, hn, _, h => by
    cases s <;> simp [marshalField, Shape.noAVP] at h hn
theorem marshalElems_faithful : ∀ (s : Shape) (vs : List RV) (e : DEnt) (as : List AVP), s.noAVP = true →
    byCode e.code = some e → marshalElems find s vs e = .ok as → dictOKL byCode as = true
  | _, [], _, as, _, _, h => by cases h; rfl
  | s, v :: r, e, as, hn, he, h => by
    obtain ⟨a, b, h1, h2, rfl⟩ := Res.bindR_mapR_eq_ok.mp (by simpa only [marshalElems] using h)
    rw [dictOKL_append, marshalField_faithful s v e a hn he h1, marshalElems_faithful s r e b hn he h2]; rfl
theorem marshalGroup_faithful : ∀ (fs : List SField) (vs : List RV) (as : List AVP), noAVPFields fs = true →
    marshalGroup find fs vs = .ok as → dictOKL byCode as = true
  | [], _, as, _, h => by simp [marshalGroup] at h; subst h; rfl
  | .mk _ _ :: _, [], as, _, h => by cases h; rfl
  | .mk tag s :: fs, v :: vs, as, hn, h => by
    simp only [noAVPFields, Bool.and_eq_true] at hn
    obtain ⟨a, b, h1, h2, rfl⟩ := Res.bindR_mapR_eq_ok.mp (by simpa only [marshalGroup_cons] using h)
    rw [dictOKL_append, fieldOut_faithful find byCode hB (fun e as => marshalField_faithful s v e as hn.1) h1,
      marshalGroup_faithful fs vs b hn.2 h2]; rfl
end

mutual
/-- `marshalStruct` (top level, anonymous struct fields marshalled in place) -/
theorem marshalStruct_faithful : ∀ (fs : List SField) (vs : List RV) (as : List AVP), noAVPFields fs = true →
    marshalStruct find fs vs = .ok as → dictOKL byCode as = true
  | [], _, as, _, h => by simp [marshalStruct] at h; subst h; rfl
  | .mk _ _ :: _, [], as, _, h => by cases h; rfl
  | .mk tag s :: fs, v :: vs, as, hn, h => by
    simp only [noAVPFields, Bool.and_eq_true] at hn
    obtain ⟨a, b, h1, h2, rfl⟩ := Res.bindR_mapR_eq_ok.mp (by simpa only [marshalStruct] using h)
    have ha : dictOKL byCode a = true := by
      split at h1
      · exact marshalEmb_faithful s v a hn.1 h1
      · exact fieldOut_faithful find byCode hB (fun e as => marshalField_faithful find byCode hB s v e as hn.1) h1
    rw [dictOKL_append, ha, marshalStruct_faithful fs vs b hn.2 h2]; rfl
theorem marshalEmb_faithful : ∀ (s : Shape) (v : RV) (as : List AVP), s.noAVP = true →
    marshalEmb find s v = .ok as → dictOKL byCode as = true
  | s, v, as, hn, h => by
    cases s with
    | struct efs =>
      cases v with
      | struct evs => exact marshalStruct_faithful efs evs as (by simpa [Shape.noAVP] using hn) (by simpa [marshalEmb] using h)
      | _ => simp [marshalEmb] at h
    | _ => simp [marshalEmb] at h
end
end

end DV
