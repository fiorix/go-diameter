import Model.Reflect
import Proofs.Reflect
/-! `Unmarshal ∘ Marshal` is the identity on the well-formed fragment (C18).
    One mutual induction over the value (`fieldRT`, `elemsRT`, `structRT`, `embRT`) says of each
    marshalling function that a well-formed value marshals, which codes its AVPs carry and what
    is read back from them; the totality and inverse theorems are projections of it. -/
namespace DV

theorem distinct_iff (l : List Nat) : distinct l = true ↔ l.Nodup := by
  induction l <;> simp_all [distinct]

/-- `out` carries only codes from `cs`, and `scan` recovers `r` from any AVP list that, code by
    code of `cs` (pairwise distinct), holds the same AVPs as `out`: what one struct level, one
    embedded struct or one tagged field contributes to `scanFields` -/
structure Reads {ρ : Type} (cs : List Nat) (out : List AVP) (scan : List AVP → ρ) (r : ρ) : Prop where
  codes : ∀ x ∈ out, x.code ∈ cs
  eq : ∀ all, (∀ c ∈ cs, all.filter (fun a => a.code = c) = out.filter (fun a => a.code = c)) →
    distinct cs = true → scan all = r

theorem Reads.nil {ρ : Type} (r : ρ) : Reads [] [] (fun _ => r) r := ⟨by simp, fun _ _ _ => rfl⟩

theorem Reads.map {ρ σ : Type} {cs : List Nat} {out : List AVP} {f : List AVP → ρ} {x : ρ} (g : ρ → σ)
    (h : Reads cs out f x) : Reads cs out (fun all => g (f all)) (g x) :=
  ⟨h.codes, fun all hall hd => congrArg g (h.eq all hall hd)⟩

/-- two readers side by side: each sees its own AVPs, because the codes are disjoint -/
theorem Reads.cons {ρ : Type} {ca cb : List Nat} {a b : List AVP} {f : List AVP → ρ} {g : List AVP → List ρ}
    {x : ρ} {y : List ρ} (ha : Reads ca a f x) (hb : Reads cb b g y) :
    Reads (ca ++ cb) (a ++ b) (fun all => f all :: g all) (x :: y) := by
  refine ⟨fun z hz => ?_, fun all hall hd => ?_⟩
  · simp only [List.mem_append] at hz ⊢
    exact hz.imp (ha.codes z) (hb.codes z)
  · obtain ⟨da, db, dj⟩ := List.nodup_append.mp ((distinct_iff _).mp hd)
    have ea : ∀ c ∈ ca, all.filter (fun z => z.code = c) = a.filter (fun z => z.code = c) := fun c hc => by
      rw [hall c (List.mem_append_left _ hc), List.filter_append, (List.filter_eq_nil_iff (l := b)).mpr, List.append_nil]
      exact fun z hz hzc => dj c hc z.code (hb.codes z hz) (of_decide_eq_true hzc).symm
    have eb : ∀ c ∈ cb, all.filter (fun z => z.code = c) = b.filter (fun z => z.code = c) := fun c hc => by
      rw [hall c (List.mem_append_right _ hc), List.filter_append, (List.filter_eq_nil_iff (l := a)).mpr, List.nil_append]
      exact fun z hz hzc => dj z.code (ha.codes z hz) c hc (of_decide_eq_true hzc)
    show f all :: g all = x :: y
    rw [ha.eq all ea ((distinct_iff _).mpr da), hb.eq all eb ((distinct_iff _).mpr db)]

section
variable (find : FindFn)

/-- a tagged field reads the AVPs with its code -/
theorem Reads.field {s : Shape} {e : DEnt} {as : List AVP} {cur r : RV} (hc : ∀ a ∈ as, a.code = e.code)
    (hb : unmarshalField find s as cur = r) :
    Reads [e.code] as (fun all => if (all.filter (fun a => a.code = e.code)).isEmpty then cur
      else unmarshalField find s (all.filter (fun a => a.code = e.code)) cur) r := by
  refine ⟨by simpa using hc, fun all hall _ => ?_⟩
  show (if (all.filter _).isEmpty then cur else unmarshalField find s (all.filter _) cur) = r
  rw [hall e.code (by simp), List.filter_eq_self.mpr (by simpa using hc)]
  cases as with
  | nil => simpa [unmarshalField] using hb
  | cons _ _ => simpa using hb

/-- on well-formed elements the `[]*diam.AVP` shortcut of `marshalField` is the element loop -/
theorem slice_marshal (s : Shape) : ∀ (vs : List RV) (e : DEnt), wfElems find s vs e = true →
    marshalField find (.slice s) (.slice vs) e = marshalElems find s vs e := by
  by_cases hp : s.isPtrAVP = true
  · cases isPtrAVP_eq s hp
    intro vs e
    simp only [marshalField, Shape.isPtrAVP, if_true]
    induction vs with
    | nil => simp [marshalElems]
    | cons v r ih =>
      intro hw
      simp only [wfElems, Bool.and_eq_true] at hw
      cases v with
      | ptr x =>
        cases x with
        | avp a =>
          simp only [wfField, Bool.and_eq_true, decide_eq_true_eq] at hw
          obtain ⟨⟨-, -, hg, -⟩, hr⟩ := hw
          simp [marshalElems, marshalField, hg, ← ih hr]
        | _ => simp [wfField] at hw
      | _ => simp [wfField, RV.isNil] at hw
  · intro vs e _; simp [marshalField, hp]

/-- on well-formed input the group loop is `marshalStruct` -/
theorem group_as_struct : ∀ (fs : List SField) (vs : List RV), wfGroup find fs vs = true →
    marshalGroup find fs vs = marshalStruct find fs vs ∧ wfStruct find fs vs = true
  | [], [], _ => ⟨rfl, rfl⟩
  | [], _ :: _, h | .mk _ _ :: _, [], h => nomatch h
  | .mk tag s :: fs, v :: vs, h => by
    simp only [wfGroup, Bool.and_eq_true] at h
    obtain ⟨i1, i2⟩ := group_as_struct fs vs h.2
    have hemb : tag.emb = false := Bool.eq_false_iff.mpr fun he => by simp [he] at h
    exact ⟨by simp only [marshalGroup_cons, marshalStruct, hemb, Bool.false_eq_true, if_false, i1],
      by simpa [wfStruct, hemb, i2] using h.1⟩

theorem single_not_slice (s : Shape) (h : (Shape.slice s).single = true) : False := by simp [Shape.single] at h

theorem tailsNE_cons {α : Type} (a : α) (r : List α) : tailsNE (a :: r) = (a :: r) :: tailsNE r := rfl

/-- `as` is what the field value `v` marshals to: AVPs with the field's code, from which
    `unmarshal` recovers `v`; a non-nil value of a one-AVP shape gives one AVP, and is recovered
    from it whatever follows (element `n` of a slice is read from `avps[n:]`) -/
structure FieldRT (s : Shape) (v : RV) (e : DEnt) (as : List AVP) : Prop where
  out : marshalField find s v e = .ok as
  code : ∀ a ∈ as, a.code = e.code
  back : unmarshalField find s as (zeroOf s) = normRV s v
  one : s.single = true → v.isNil = false →
    ∃ a, as = [a] ∧ ∀ rest, unmarshalField find s (a :: rest) (zeroOf s) = normRV s v

theorem FieldRT.single {s : Shape} {v : RV} {e : DEnt} {a : AVP} (out : marshalField find s v e = .ok [a])
    (code : a.code = e.code) (back : ∀ rest, unmarshalField find s (a :: rest) (zeroOf s) = normRV s v) :
    FieldRT find s v e [a] :=
  ⟨out, by simpa using code, back [], fun _ _ => ⟨a, rfl, back⟩⟩

/-- a leaf: the conversions `toData` and `fromData` are inverse on what `wfField` admits -/
theorem leafRT {t : GoT} {v : GV} {e : DEnt} (hw : wfField find (.leaf t) (.leaf v) e = true) :
    ∃ d, marshalField find (.leaf t) (.leaf v) e = .ok [mkFieldAVP e d] ∧
      ∀ rest cur, unmarshalField find (.leaf t) (mkFieldAVP e d :: rest) cur = .leaf v := by
  simp only [wfField, Bool.and_eq_true, decide_eq_true_eq] at hw
  cases hd : toData e.ty t v with
  | none => simp [hd] at hw
  | some d =>
    have hb : fromData t d = some v := by simpa [hd] using hw.2
    exact ⟨d, by simp [marshalField, hw.1, hd], fun rest cur => by simp [unmarshalField, mkFieldAVP, hb]⟩

mutual
theorem fieldRT : ∀ (s : Shape) (v : RV) (e : DEnt), wfField find s v e = true → ∃ as, FieldRT find s v e as
  | s, .leaf gv, e, hw => by
    cases s with
    | leaf t =>
      obtain ⟨d, hm, hu⟩ := leafRT find hw
      exact ⟨[mkFieldAVP e d], .single find hm rfl fun rest => by rw [hu]; rfl⟩
    | _ => simp [wfField] at hw
  | s, .nil, e, hw => by
    cases s with
    | ptr s | slice s => exact ⟨[], rfl, nofun, rfl, nofun⟩
    | _ => simp [wfField] at hw
  | s, .ptr w, e, hw => by
    cases s with
    | ptr s =>
      simp only [wfField, Bool.and_eq_true, Bool.not_eq_true'] at hw
      obtain ⟨as, h⟩ := fieldRT s w e hw.2
      obtain ⟨a, rfl, hr⟩ := h.one hw.1.1 hw.1.2
      exact ⟨[a], .single find (by simp [marshalField, h.out]) (h.code a (by simp)) fun rest => congrArg RV.ptr (hr rest)⟩
    | _ => simp [wfField] at hw
  | s, .slice vs, e, hw => by
    cases s with
    | slice s =>
      simp only [wfField, Bool.and_eq_true] at hw
      obtain ⟨as, ho, hc, hb⟩ := elemsRT s vs e hw.2
      obtain ⟨i1, i2⟩ := hb hw.1
      refine ⟨as, by rw [slice_marshal find s vs e hw.2, ho], hc, ?_, by simp [Shape.single]⟩
      -- `i2 : as.length = vs.length`: both are empty or neither is
      match vs, as, i1, i2 with
      | [], [], _, _ => rfl
      | _ :: _, _ :: _, i1, _ => simp only [unmarshalField, normRV, i1]
    | _ => simp [wfField] at hw
  | s, .struct vs, e, hw => by
    cases s with
    | struct fs =>
      simp only [wfField, Bool.and_eq_true, decide_eq_true_eq] at hw
      obtain ⟨⟨hg, hdist⟩, hwg⟩ := hw
      obtain ⟨e1, e2⟩ := group_as_struct find fs vs hwg
      obtain ⟨kids, hk, hr⟩ := structRT fs vs e2
      exact ⟨[mkFieldAVP e (.group kids)], .single find (by simp [marshalField, hg, e1, hk]) rfl fun rest => by
        simp only [unmarshalField, mkFieldAVP, AVP.data_mk, zeroOf, normRV, hr.eq kids (fun _ _ => rfl) hdist]⟩
    | _ => simp [wfField] at hw
  | s, .avp a, e, hw => by
    cases s with
    | avp =>
      simp only [wfField, Bool.and_eq_true, decide_eq_true_eq] at hw
      exact ⟨[a], .single find (by simp [marshalField, hw.1]) hw.2 fun _ => rfl⟩
    | _ => simp [wfField] at hw
theorem elemsRT : ∀ (s : Shape) (vs : List RV) (e : DEnt), wfElems find s vs e = true →
    ∃ as, marshalElems find s vs e = .ok as ∧ (∀ a ∈ as, a.code = e.code) ∧
      (s.single = true →
        (tailsNE as).map (fun t => unmarshalField find s t (zeroOf s)) = normElems s vs ∧ as.length = vs.length)
  | s, [], e, _ => ⟨[], rfl, nofun, fun _ => ⟨rfl, rfl⟩⟩
  | s, v :: r, e, hw => by
    simp only [wfElems, Bool.and_eq_true, Bool.not_eq_true'] at hw
    obtain ⟨a, ha⟩ := fieldRT s v e hw.1.2
    obtain ⟨b, hb, cb, ib⟩ := elemsRT s r e hw.2
    refine ⟨a ++ b, by simp [marshalElems, ha.out, hb], fun x hx => ?_, fun hs => ?_⟩
    · exact (List.mem_append.mp hx).elim (ha.code x) (cb x)
    · obtain ⟨a0, rfl, hr⟩ := ha.one hs hw.1.1
      obtain ⟨i1, i2⟩ := ib hs
      simp [tailsNE, normElems, hr b, i1, i2]
theorem structRT : ∀ (fs : List SField) (vs : List RV), wfStruct find fs vs = true →
    ∃ out, marshalStruct find fs vs = .ok out ∧
      Reads (levelCodes find fs) out (fun all => scanFields find fs all (zeroOf.zeroFields fs)) (normFields fs vs)
  | [], [], _ => ⟨[], rfl, Reads.nil []⟩
  | [], _ :: _, hw | .mk _ _ :: _, [], hw => nomatch hw
  | .mk tag s :: fs, v :: vs, hw => by
    simp only [wfStruct, Bool.and_eq_true] at hw
    obtain ⟨b, hb, rb⟩ := structRT fs vs hw.2
    -- one step of each of the five functions that walk the field list; then by the kind of the head field
    simp only [marshalStruct, levelCodes, scanFields, zeroOf.zeroFields, normFields, fieldOut, hb, Res.mapR_ok]
    by_cases hemb : tag.emb = true
    · obtain ⟨a, ha, ra⟩ := embRT s v (by simpa [hemb] using hw.1)
      simp only [hemb, if_true, ha]
      exact ⟨_, rfl, ra.cons rb⟩
    simp only [hemb] at hw ⊢
    by_cases hn : tag.name = 0
    · simp only [hn, true_or, if_true]
      exact ⟨_, rfl, (Reads.nil _).cons rb⟩
    cases he : entOf find tag.name with
    | none => simp [hn, he] at hw
    | some e =>
      simp only [hn, he, false_or, if_false] at hw ⊢
      by_cases hskip : tag.omitE = true ∧ v.isEmpty = true
      · simp only [hskip, and_self, if_true]
        exact ⟨_, rfl, (Reads.field find (as := []) (by simp) (by simp [unmarshalField])).cons rb⟩
      · obtain ⟨a, ha⟩ := fieldRT s v e (by simpa [hskip] using hw.1)
        simp only [hskip, if_false, ha.out]
        exact ⟨_, rfl, (Reads.field find ha.code ha.back).cons rb⟩
theorem embRT : ∀ (s : Shape) (v : RV), wfEmb find s v = true →
    ∃ out, marshalEmb find s v = .ok out ∧
      Reads (embCodes find s) out (fun all => scanEmb find s all (zeroOf s)) (normRV s v)
  | s, v, hw => by
    cases s with
    | struct efs =>
      cases v with
      | struct evs =>
        obtain ⟨out, ho, r⟩ := structRT efs evs (by simpa [wfEmb] using hw)
        exact ⟨out, by simp [marshalEmb, ho], r.map RV.struct⟩
      | _ => simp [wfEmb] at hw
    | _ => simp [wfEmb] at hw
end

theorem totalField : ∀ (s : Shape) (v : RV) (e : DEnt), wfField find s v e = true → ∃ as, marshalField find s v e = .ok as :=
  fun s v e hw => (fieldRT find s v e hw).imp fun _ h => h.out

theorem totalElems : ∀ (s : Shape) (vs : List RV) (e : DEnt), wfElems find s vs e = true → ∃ as, marshalElems find s vs e = .ok as :=
  fun s vs e hw => (elemsRT find s vs e hw).imp fun _ h => h.1

theorem totalEmb : ∀ (s : Shape) (v : RV), wfEmb find s v = true → ∃ as, marshalEmb find s v = .ok as :=
  fun s v hw => (embRT find s v hw).imp fun _ h => h.1

theorem invSingle : ∀ (s : Shape) (v : RV) (e : DEnt) (as : List AVP), s.single = true → v.isNil = false →
    wfField find s v e = true → marshalField find s v e = .ok as →
    ∃ a, as = [a] ∧ ∀ rest, unmarshalField find s (a :: rest) (zeroOf s) = normRV s v :=
  fun s v e as hs hn hw h => by
    obtain ⟨_, r⟩ := fieldRT find s v e hw
    cases r.out.symm.trans h
    exact r.one hs hn

theorem invElems : ∀ (s : Shape) (vs : List RV) (e : DEnt) (as : List AVP), s.single = true →
    wfElems find s vs e = true → marshalElems find s vs e = .ok as →
    (tailsNE as).map (fun t => unmarshalField find s t (zeroOf s)) = normElems s vs ∧ as.length = vs.length :=
  fun s vs e as hs hw h => by
    obtain ⟨_, ho, _, r⟩ := elemsRT find s vs e hw
    cases ho.symm.trans h
    exact r hs

theorem invEmb : ∀ (s : Shape) (v : RV) (out all : List AVP), wfEmb find s v = true →
    marshalEmb find s v = .ok out →
    (∀ c ∈ embCodes find s, all.filter (fun a => a.code = c) = out.filter (fun a => a.code = c)) →
    distinct (embCodes find s) = true →
    scanEmb find s all (zeroOf s) = normRV s v :=
  fun s v out all hw h hall hd => by
    obtain ⟨_, ho, r⟩ := embRT find s v hw
    cases ho.symm.trans h
    exact r.eq all hall hd

/-- `Unmarshal ∘ Marshal` on the well-formed fragment: marshalling succeeds, and scanning into a
    fresh (zero) struct any AVP list that holds, for each code of the struct's top level, the
    AVPs marshalled with that code (in their order; AVPs with other codes may be anywhere in it)
    yields the value in normal form -/
theorem marshal_unmarshal (fs : List SField) (vs : List RV) (hw : wfStruct find fs vs = true)
    (hd : distinct (levelCodes find fs) = true) :
    ∃ as, marshalStruct find fs vs = .ok as ∧
      ∀ all, (∀ c ∈ levelCodes find fs, all.filter (fun a => a.code = c) = as.filter (fun a => a.code = c)) →
        scanFields find fs all (zeroOf.zeroFields fs) = normFields fs vs := by
  obtain ⟨as, h, r⟩ := structRT find fs vs hw
  exact ⟨as, h, fun all hall => r.eq all hall hd⟩

end
end DV
