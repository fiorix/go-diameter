import Proofs.ReflectInv
import Spec.Canon
/-! `Unmarshal` does not look at Length fields: scanning the tree a read
    returns (`wireL`) gives the same struct as scanning the tree that was written (C18, wire). -/
namespace DV
open DV.Spec

theorem wireL_eq_map (as : List AVP) : wireL as = as.map wire := by
  induction as <;> simp_all [wireL]

theorem wire_code (a : AVP) : (wire a).code = a.code := by cases a; rfl

theorem wire_data (a : AVP) : (wire a).data = match a.data with | .group kids => .group (wireL kids) | d => d := by
  rcases a with ⟨_, _, _, _, d⟩; cases d <;> rfl

theorem fromData_wire (t : GoT) (a : AVP) : fromData t (wire a).data = fromData t a.data := by
  rcases a with ⟨_, _, _, _, d⟩; cases d <;> rfl

theorem lowByte_wire (a : AVP) : lowByte (wire a) = lowByte a := by
  rcases a with ⟨_, _, _, _, d⟩; cases d <;> rfl

theorem wireL_filter (c : Nat) (as : List AVP) :
    (wireL as).filter (fun a => a.code = c) = wireL (as.filter (fun a => a.code = c)) := by
  simp [wireL_eq_map, List.filter_map, Function.comp_def, wire_code]

theorem tailsNE_wireL : ∀ (as : List AVP), tailsNE (wireL as) = (tailsNE as).map wireL
  | [] => rfl
  | a :: r => by simp [tailsNE, wireL, tailsNE_wireL r]

section
variable (find : FindFn)

mutual
theorem unmarshal_wire : ∀ (s : Shape) (as : List AVP) (cur : RV), s.noAVP = true →
    unmarshalField find s (wireL as) cur = unmarshalField find s as cur
  | _, [], _, _ => by simp [wireL, unmarshalField]
  | .slice s, a :: rest, cur, hn => by
    have ih := fun t => unmarshal_wire s t (zeroOf s) (by simpa [Shape.noAVP] using hn)
    show unmarshalField find _ (wire a :: wireL rest) cur = _
    simp only [unmarshalField]
    rw [show wire a :: wireL rest = wireL (a :: rest) from rfl, tailsNE_wireL]
    simp [ih]
  | .ptr s, a :: rest, cur, hn => by
    show unmarshalField find _ (wire a :: wireL rest) cur = _
    simp only [unmarshalField]
    exact congrArg _ (unmarshal_wire s (a :: rest) _ (by simpa [Shape.noAVP] using hn))
  | .struct fs, a :: rest, cur, hn => by
    have ih := fun kids vs => scan_wire fs kids vs (by simpa [Shape.noAVP] using hn)
    show unmarshalField find _ (wire a :: wireL rest) cur = _
    simp only [unmarshalField, wire_data]
    cases a.data <;> cases cur <;> simp only [ih]
  | .avp, _ :: _, _, hn => by simp [Shape.noAVP] at hn
  | .leaf t, a :: rest, cur, _ => by
    show unmarshalField find _ (wire a :: wireL rest) cur = _
    simp [unmarshalField, fromData_wire, lowByte_wire, wireL_eq_map, Function.comp_def]
theorem scan_wire : ∀ (fs : List SField) (as : List AVP) (vs : List RV), noAVPFields fs = true →
    scanFields find fs (wireL as) vs = scanFields find fs as vs
  | [], _, _, _ => by simp [scanFields]
  | .mk tag s :: fs, as, [], _ => by simp [scanFields]
  | .mk tag s :: fs, as, v :: vs, hn => by
    simp only [noAVPFields, Bool.and_eq_true] at hn
    simp only [scanFields, scan_wire fs as vs hn.2, scanEmb_wire s as v hn.1, wireL_filter, unmarshal_wire s _ v hn.1]
    simp [wireL_eq_map]
theorem scanEmb_wire : ∀ (s : Shape) (as : List AVP) (v : RV), s.noAVP = true →
    scanEmb find s (wireL as) v = scanEmb find s as v
  | s, as, v, hn => by
    cases s with
    | struct efs =>
      cases v with
      | struct evs => simp only [scanEmb, scan_wire efs as evs (by simpa [Shape.noAVP] using hn)]
      | _ => rfl
    | _ => rfl
end

end
end DV
