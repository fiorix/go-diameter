import Proofs.Encode
/-! decode ∘ encode = id on canonical, correctly typed trees (C01, API direction). -/
namespace DV
open DV.Spec

theorem typedOk_type {ty : Nat → Nat → Nat} {c f l v : Nat} {d : Val}
    (h : typedOk ty (AVP.mk c f l v d) = true) : ty c v = dictTypeOf d := by
  unfold typedOk at h
  exact of_decide_eq_true (Bool.and_eq_true_iff.mp h).1

theorem typedOk_group {ty : Nat → Nat → Nat} {c f l v : Nat} {kids : List AVP}
    (h : typedOk ty (AVP.mk c f l v (.group kids)) = true) : typedOkL ty kids = true := by
  unfold typedOk at h
  exact (Bool.and_eq_true_iff.mp h).2

mutual
theorem ser_length : ∀ d : Val, canonVal d = true → d.ser.length = d.len
  | .group as, h => encL_length as h
  | .str t b, _ => rfl
  | .addr b, _ => addr_fits b
  | .ip4 b, h => by rw [Val.ser, to4_len4 (canonVal_ip4.mp h)]; exact canonVal_ip4.mp h
  | .ip6 b, h => by rw [Val.ser, to16_len16 (canonVal_ip6.mp h)]; exact canonVal_ip6.mp h
  | .fix t n, _ => be_length _ n
  | .time u, _ => encTime_length u
theorem enc_length : ∀ a : AVP, canonAVP a = true → a.enc.length = a.len
  | .mk c f l v d, h => AVP.enc_length c f l v (ser_length d (canonVal_of_canonAVP h))
theorem encL_length : ∀ as : List AVP, canonL as = true → (encL as).length = lenL as
  | [], _ => rfl
  | a :: r, h => by
    rw [canonL, Bool.and_eq_true] at h
    rw [encL, lenL, List.length_append, enc_length a h.1, encL_length r h.2]
end

theorem len_ge8 (a : AVP) : 8 ≤ a.len := by
  cases a with
  | mk c f l v d => rw [AVP.len_eq]; have := hdrLen_cases f; omega

/-- `AVP.Len()` of a canonical AVP is its Length rounded up to four: the step of the decoder's cursor -/
theorem len_wire : ∀ a : AVP, canonAVP a = true → pad4 (wire a).length = a.len
  | .mk c f l v d, h => by
    have hd := canonVal_of_canonAVP h
    have := pad4_ge d.len
    show pad4 (hdrLen f + d.len) = _
    rw [AVP.len_eq, canon_padding d hd (ser_eq d hd).2, pad4_add_hdr (hdrLen_mod4 f)]
    omega

mutual
theorem rt_avp (ty : Nat → Nat → Nat) : ∀ (a : AVP), canonAVP a = true → typedOk ty a = true →
    a.len < 16777216 → ∀ fuel, a.len ≤ fuel → ∀ rest, decodeAVP ty fuel (a.enc ++ rest) = .ok (wire a)
  | .mk c f l v d, hc, ht, hsz, fuel, hfuel, rest => by
    obtain ⟨hc1, hf, hv1, hvz, hd⟩ := canonAVP_iff.mp hc
    have hlen := AVP.len_eq c f l v d
    have hhl := hdrLen_cases f
    obtain ⟨fuel', rfl⟩ : ∃ k, fuel = k + 1 := ⟨fuel - 1, by omega⟩
    rw [AVP.enc_hdr, List.append_assoc, List.append_assoc,
      decodeAVP_hdrBytes ty fuel' hc1 hf (by omega) hv1 hvz _ _ (by rw [ser_length d hd]),
      decodePayload_unfold, typedOk_type ht]
    cases d with
    | group kids =>
      simp only [Val.len] at hlen
      rw [dictTypeOf, if_pos rfl, Val.ser,
        rt_list ty kids hd (typedOk_group ht) (by omega) fuel' (by omega)]
      rfl
    | _ =>
      rw [if_neg (dictTypeOf_ne_grouped hd nofun), leaf_roundtrip hd nofun]
      rfl
theorem rt_list (ty : Nat → Nat → Nat) : ∀ (as : List AVP), canonL as = true → typedOkL ty as = true →
    lenL as < 16777216 → ∀ fuel, lenL as + 1 ≤ fuel → decodeAVPs ty fuel (encL as) = .ok (wireL as)
  | [], _, _, _, fuel, _ => by cases fuel <;> rfl
  | a :: r, hc, ht, hsz, fuel, hfuel => by
    rw [canonL, Bool.and_eq_true] at hc
    rw [typedOkL, Bool.and_eq_true] at ht
    rw [lenL] at hsz hfuel
    have h8 := len_ge8 a
    obtain ⟨fuel', rfl⟩ : ∃ k, fuel = k + 1 := ⟨fuel - 1, by omega⟩
    have hel := enc_length a hc.1
    have hne : a.enc ++ encL r ≠ [] :=
      List.ne_nil_of_length_pos (by rw [List.length_append, hel]; omega)
    rw [decodeAVPs_succ, encL, if_neg (mt List.isEmpty_iff.mp hne),
      rt_avp ty a hc.1 ht.1 (by omega) fuel' (by omega) (encL r), Res.bindR_ok, len_wire a hc.1, ← hel,
      List.drop_left, rt_list ty r hc.2 ht.2 (by omega) fuel' (by omega)]
    rfl
end

/-- `decodeAVPs` applied to exactly the encoded bytes, with the fuel `ReadMessage` gives it -/
theorem api_avps_rt (ty : Nat → Nat → Nat) (as : List AVP)
    (hc : canonL as = true) (ht : typedOkL ty as = true) (hsz : lenL as < 16777216) :
    decodeAVPs ty ((encL as).length + 1) (encL as) = .ok (wireL as) := by
  rw [encL_length as hc]
  exact rt_list ty as hc ht hsz _ (Nat.le_refl _)

mutual
/-- the encoder does not look at the Length field -/
theorem enc_wire : ∀ a : AVP, (wire a).enc = a.enc ∧ (wire a).len = a.len
  | .mk c f l v d => by
    cases d with
    | group as => simp only [wire, AVP.enc, AVP.len, Val.ser, Val.len, encL_wire as, and_self]
    | _ => exact ⟨rfl, rfl⟩
theorem encL_wire : ∀ as : List AVP, encL (wireL as) = encL as ∧ lenL (wireL as) = lenL as
  | [] => ⟨rfl, rfl⟩
  | a :: r => by simp only [wireL, encL, lenL, enc_wire a, encL_wire r, and_self]
end

mutual
theorem wire_idem : ∀ a : AVP, wire (wire a) = wire a
  | .mk c f l v d => by
    cases d with
    | group as => simp only [wire, Val.len, (encL_wire as).2, wireL_idem as]
    | _ => rfl
theorem wireL_idem : ∀ as : List AVP, wireL (wireL as) = wireL as
  | [] => rfl
  | a :: r => by simp only [wireL, wire_idem a, wireL_idem r]
end

end DV
