/-!
  Transition systems given by a partial step function `step : σ → ε → Option σ` over a record of state.

  How the step lemmas are written. An event yields `{ s with f := … }`, and a clause of an invariant (a
  `Prop`-valued structure over the state) that mentions none of the assigned fields is, after unfolding the
  projections, the clause it was. So `{ h with c₁ := …, c₂ := … }` proves the invariant of the new state from
  `h` by proving again exactly the clauses that mention an assigned field; Lean checks the others by `rfl`.

  A step lemma about `hs : s.step e = some s'` opens with `revert hs; fun_cases X.step s e <;> rintro ⟨⟩`.
  `fun_cases` is the case principle Lean derives from the definition of `X.step`: one goal for each branch,
  in the order of the definition, with the guards and match equations of the branch as hypotheses. It
  rewrites the call in the goal only, hence `revert hs`; `rintro ⟨⟩` then closes the branches that return
  `none` and puts the record for `s'` in the others. `next a b => … -- event` names those hypotheses from
  the left, in the order `fun_cases` lists them (not always that of the source text: how a name is used says
  which guard it is); an `else` or wildcard arm gives the negated guard (`¬ g`, `∀ x, s.f = some x → False`),
  a `let` a local definition. Opening `CN.step` guard by guard with `split at hs` costs five times as much.
-/
namespace DV

/-- A property that every enabled step keeps holds after every run. `run` is any function with the
    two equations that the models' `run` functions have; each model instantiates this once
    (`HS.run_inv`, `WD.run_inv`, ...), and every fact about its reachable states goes through that. -/
theorem run_invariant {σ ε : Type} {step : σ → ε → Option σ} {run : σ → List ε → Option σ}
    (nil : ∀ s, run s [] = some s)
    (cons : ∀ s e es, run s (e :: es) = (step s e).bind (run · es))
    {P : σ → Prop} (hstep : ∀ {s e s'}, P s → step s e = some s' → P s') :
    ∀ es s s', P s → run s es = some s' → P s'
  | [], s, s', h, hr => by rw [nil] at hr; cases hr; exact h
  | e :: es, s, s', h, hr => by
    rw [cons] at hr
    cases hst : step s e with
    | none => rw [hst] at hr; cases hr
    | some s1 => rw [hst] at hr; exact run_invariant nil cons hstep es s1 s' (hstep h hst) hr

end DV
