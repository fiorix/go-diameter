import Model.SM
import Spec.SMSpec
/-! `CER.Parse` accepts exactly when the Spec's condition holds; rejection codes apply (C11). -/
namespace DV
open DV.Spec

variable (appOK : Nat → Nat → Bool)

/-- `validate` against the Spec's `validApp`: the error it returns, and whether it collects an id -/
theorem validate_cases (typ : Nat) (a : AVP) :
    (validate appOK typ a).1.2 =
      (if validApp appOK typ a then none else some (if notU32 a.data then .unexpected else .noCommonApp)) ∧
    ((validate appOK typ a).2 = [] ↔ validApp appOK typ a = false) := by
  unfold validate validApp notU32
  cases a.data with
  | fix t n =>
    by_cases ht : t = T.u32
    · by_cases hn : n = 4294967295
      · simp [ht, hn]
      · by_cases ho : appOK n typ = true <;> simp [ht, hn, ho]
    · simp [ht]
  | _ => simp

theorem validate_err (typ : Nat) (a : AVP) :
    (validate appOK typ a).1.2 =
      if validApp appOK typ a then none else some (if notU32 a.data then .unexpected else .noCommonApp) :=
  (validate_cases appOK typ a).1

theorem validate_ids (typ : Nat) (a : AVP) :
    (validate appOK typ a).2 = [] ↔ validApp appOK typ a = false :=
  (validate_cases appOK typ a).2

theorem validate_none (typ : Nat) (a : AVP) :
    (validate appOK typ a).1.2 = none ↔ validApp appOK typ a = true := by
  rw [validate_err]; split <;> simp_all

theorem validate_isNone (typ : Nat) (a : AVP) :
    (validate appOK typ a).1.2.isNone = validApp appOK typ a := by
  rw [Bool.eq_iff_iff, Option.isNone_iff_eq_none, validate_none]

theorem chooseErr_found (cur : VRes) (found : Bool) (new : VRes) :
    (chooseErr cur found new).2 = (found || new.2.isNone) := by
  fun_cases chooseErr cur found new
  next h => rw [h, Bool.or_true]
  next h _ => rw [Bool.eq_false_iff.2 h, Bool.or_false]
  next h _ => rw [Bool.eq_false_iff.2 h, Bool.or_false]

/-- the error `chooseErr` keeps is the current one or the new one, so a class that holds both holds the result -/
theorem chooseErr_pres (P : Option PErr → Prop) (cur : VRes) (found : Bool) (new : VRes)
    (hc : P cur.2) (hn : P new.2) : P (chooseErr cur found new).1.2 := by
  fun_cases chooseErr cur found new
  · exact hc
  · exact hn
  · exact hc

theorem chooseErr_none (cur : VRes) (found : Bool) (new : VRes) :
    (chooseErr cur found new).1.2 = none ↔ cur.2 = none ∧ new.2 = none := by
  fun_cases chooseErr cur found new <;> simp_all

/-! ### the loop of `validateAll` and of `Application.Parse` over the VSA groups

Both fold `chooseErr` over the results of a step function; `chLoop` is that fold. -/

def chLoop (step : AVP → VRes × List Nat) : List AVP → VRes → Bool → List Nat → VRes × Bool × List Nat
  | [], c, f, ids => (c, f, ids)
  | a :: r, c, f, ids =>
    chLoop step r (chooseErr c f (step a).1).1 (chooseErr c f (step a).1).2 (ids ++ (step a).2)

theorem vaLoop_eq (typ : Nat) : ∀ l c f ids,
    vaLoop appOK typ l c f ids = chLoop (validate appOK typ) l c f ids
  | [], _, _, _ => rfl
  | _ :: r, _, _, _ => vaLoop_eq typ r _ _ _

theorem vsLoop_eq : ∀ l c f ids,
    vsLoop appOK l c f ids = chLoop (handleGroup appOK) l c f ids
  | [], _, _, _ => rfl
  | _ :: r, _, _, _ => vsLoop_eq r _ _ _

variable (step : AVP → VRes × List Nat)

theorem chLoop_found : ∀ l c f ids,
    (chLoop step l c f ids).2.1 = (f || l.any fun a => (step a).1.2.isNone)
  | [], _, _, _ => by simp [chLoop]
  | a :: r, c, f, ids => by simp [chLoop, chLoop_found r, chooseErr_found, Bool.or_assoc]

theorem chLoop_ids : ∀ l c f ids,
    (chLoop step l c f ids).2.2 = ids ++ l.flatMap fun a => (step a).2
  | [], _, _, _ => by simp [chLoop]
  | a :: r, c, f, ids => by simp [chLoop, chLoop_ids r]

/-- the loop ends without an error only if it started without one and no step gave one -/
theorem chLoop_none : ∀ l c f ids,
    (chLoop step l c f ids).1.2 = none ↔ c.2 = none ∧ ∀ a ∈ l, (step a).1.2 = none
  | [], _, _, _ => by simp [chLoop]
  | a :: r, c, f, ids => by simp [chLoop, chLoop_none r, chooseErr_none, and_assoc]

/-- an error class that holds of the starting error and of every step's error holds of the result -/
theorem chLoop_pres (P : Option PErr → Prop) : ∀ l c f ids, P c.2 →
    (∀ a ∈ l, P (step a).1.2) → P (chLoop step l c f ids).1.2
  | [], _, _, _, hc, _ => hc
  | a :: r, c, f, _, hc, hl =>
    chLoop_pres P r _ _ _ (chooseErr_pres P c f _ hc (hl a List.mem_cons_self))
      fun b hb => hl b (List.mem_cons_of_mem _ hb)

theorem validateAll_ids (typ : Nat) (l : List AVP) :
    (validateAll appOK typ l).2 = l.flatMap fun a => (validate appOK typ a).2 := by
  unfold validateAll
  split
  · simp_all
  · dsimp only; split <;> simp [vaLoop_eq, chLoop_ids]

theorem validateAll_none (typ : Nat) (l : List AVP) :
    (validateAll appOK typ l).1.2 = none ↔ l.any (validApp appOK typ) = true := by
  unfold validateAll
  cases l with
  | nil => simp
  | cons a r =>
    simp only [List.isEmpty_cons, Bool.false_eq_true, if_false, vaLoop_eq, chLoop_found, Bool.false_or,
      validate_isNone]
    split
    · simp_all -- something was found: the error is dropped
    · simp_all [chLoop_none, validate_none] -- nothing was found: every step of the non-empty loop gave an error

def memberValid (k : AVP) : Bool :=
  (k.code == C.acctApp && validApp appOK 2 k) || (k.code == C.authApp && validApp appOK 1 k)

/-- does the Vendor-Specific-Application-Id AVP `g` contain a valid application id? -/
def groupValid (g : AVP) : Bool :=
  match g.data with
  | .group kids => kids.any (memberValid appOK)
  | _ => false

/-- a member that is a valid application id gives no error and an id; any other member gives no id -/
theorem memberRes_cases (c : VRes) (k : AVP) :
    (memberValid appOK k = true → (memberRes appOK c k).1.2 = none) ∧
    ((memberRes appOK c k).2 = [] ↔ memberValid appOK k = false) := by
  have : C.acctApp ≠ C.authApp := by decide
  unfold memberValid
  fun_cases memberRes appOK c k <;> simp_all [validate_none, validate_ids]

theorem memberRes_ids (c : VRes) (k : AVP) : (memberRes appOK c k).2 = [] ↔ memberValid appOK k = false :=
  (memberRes_cases appOK c k).2

theorem memberRes_none (c : VRes) (k : AVP) (h : memberValid appOK k = true) : (memberRes appOK c k).1.2 = none :=
  (memberRes_cases appOK c k).1 h

theorem hgLoop_ids : ∀ l c s ids,
    (hgLoop appOK l c s ids).2.2 = [] ↔ ids = [] ∧ l.any (memberValid appOK) = false
  | [], _, _, _ => by simp [hgLoop]
  | k :: r, c, s, ids => by simp [hgLoop, hgLoop_ids r, memberRes_ids, and_assoc]

/-- Only this direction holds: a member that is not an application id hands the running result
    `(false, none)` on, which counts as "found" although no id was collected. Hence `handleGroup_none` is an
    implication too, and `appParseOf_none` needs its hypothesis. -/
theorem hgLoop_found : ∀ l c s ids, s = true ∨ l.any (memberValid appOK) = true →
    (hgLoop appOK l c s ids).2.1 = true
  | [], _, _, _, h => by simpa [hgLoop] using h
  | k :: r, c, s, ids, h => by
    refine hgLoop_found r _ _ _ ?_
    rw [List.any_cons, Bool.or_eq_true] at h
    rcases h with h | h | h
    · simp [h]
    · simp [memberRes_none appOK c k h]
    · exact .inr h

theorem hgLoop_pres (P : Option PErr → Prop) : ∀ l c s ids, P c.2 →
    (∀ k ∈ l, ∀ c', P c'.2 → P (memberRes appOK c' k).1.2) → P (hgLoop appOK l c s ids).1.2
  | [], _, _, _, hc, _ => hc
  | k :: r, c, _, _, hc, hl =>
    hgLoop_pres P r _ _ _ (hl k List.mem_cons_self c hc) fun k' hk' => hl k' (List.mem_cons_of_mem _ hk')

theorem handleGroup_ids (g : AVP) :
    (handleGroup appOK g).2 = [] ↔ groupValid appOK g = false := by
  unfold handleGroup groupValid
  cases g.data with
  | group kids => dsimp only; split <;> simp [hgLoop_ids]
  | _ => simp

theorem handleGroup_none (g : AVP) (h : groupValid appOK g = true) :
    (handleGroup appOK g).1.2 = none := by
  unfold handleGroup
  unfold groupValid at h
  cases hd : g.data with
  | group kids => simp_all [hgLoop_found]
  | _ => simp_all

theorem validateAll_nil (typ : Nat) (l : List AVP) :
    (validateAll appOK typ l).2 = [] ↔ l.any (validApp appOK typ) = false := by
  simp [validateAll_ids, validate_ids]

theorem validateAll_isNone (typ : Nat) (l : List AVP) :
    (validateAll appOK typ l).1.2.isNone = l.any (validApp appOK typ) := by
  rw [Bool.eq_iff_iff, Option.isNone_iff_eq_none, validateAll_none]

theorem appParseOf_none (r1 r2 : VRes × List Nat) (r3 : VRes × Bool × List Nat)
    (h : r3.2.1 = false → r3.1.2 ≠ none ∧ r1.2 ++ r2.2 ++ r3.2.2 = []) :
    (appParseOf r1 r2 r3).1 = none ↔ (appParseOf r1 r2 r3).2 ≠ [] := by
  unfold appParseOf
  cases hf : r3.2.1 with
  | true => cases hi : r1.2 ++ r2.2 ++ r3.2.2 <;> simp
  | false => simp [h hf]

theorem appParse_ids (acct auth vsas : List AVP) :
    (appParse appOK acct auth vsas).2 =
      (validateAll appOK 2 acct).2 ++ (validateAll appOK 1 auth).2 ++ vsas.flatMap fun g => (handleGroup appOK g).2 := by
  unfold appParse appParseOf
  simp only [vsLoop_eq, chLoop_ids, List.nil_append]
  split
  · rfl
  · split <;> rfl

theorem appParse_nil (acct auth vsas : List AVP) :
    (appParse appOK acct auth vsas).2 = [] ↔
      (acct.any (validApp appOK 2) || auth.any (validApp appOK 1) || vsas.any (groupValid appOK)) = false := by
  simp [appParse_ids, validateAll_nil, handleGroup_ids, and_assoc]

/-- `Application.Parse` returns no error exactly when it has collected an id -/
theorem appParse_none (acct auth vsas : List AVP) :
    (appParse appOK acct auth vsas).1 = none ↔ (appParse appOK acct auth vsas).2 ≠ [] := by
  -- `appParseOf_none`: only the case where no loop has found anything is left; then each loop both keeps an
  -- error and collects nothing
  refine appParseOf_none _ _ _ fun hf => ?_
  simp only [vsLoop_eq, chLoop_found, chooseErr_found, validateAll_isNone, Bool.or_eq_false_iff] at hf
  obtain ⟨⟨h1, h2⟩, h3⟩ := hf
  constructor
  · simp [vsLoop_eq, chLoop_none, chooseErr_none, validateAll_none, h1]
  · simp only [vsLoop_eq, chLoop_ids, List.nil_append, List.append_eq_nil_iff, validateAll_nil, List.flatMap_eq_nil_iff,
      handleGroup_ids]
    exact ⟨⟨h1, h2⟩, fun g hg => Bool.eq_false_iff.mpr fun e =>
      List.any_eq_false.mp h3 g hg (by rw [handleGroup_none appOK g e]; rfl)⟩

/-- the errors `Application.Parse` can produce: "no common application", or "unexpected" for a cause `m` -/
def AppErr (m : Bool) (e : Option PErr) : Prop :=
  e = none ∨ e = some .noCommonApp ∨ (e = some .unexpected ∧ m = true)

theorem AppErr.mono {m m' : Bool} {e : Option PErr} (h : AppErr m e) (hm : m = true → m' = true) : AppErr m' e :=
  h.imp_right (.imp_right (.imp_right hm))

theorem validate_appErr (typ : Nat) (a : AVP) : AppErr (notU32 a.data) (validate appOK typ a).1.2 := by
  rw [validate_err]
  split
  · exact .inl rfl
  · split
    · exact .inr (.inr ⟨rfl, ‹_›⟩)
    · exact .inr (.inl rfl)

theorem validateAll_appErr (typ : Nat) (l : List AVP) :
    AppErr (l.any fun a => notU32 a.data) (validateAll appOK typ l).1.2 := by
  unfold validateAll
  split
  · exact .inr (.inl rfl)
  · dsimp only
    split
    · exact .inl rfl
    · rw [vaLoop_eq]
      exact chLoop_pres _ _ _ _ _ _ (.inl rfl) fun a ha =>
        (validate_appErr appOK typ a).mono fun h => List.any_eq_true.mpr ⟨a, ha, h⟩

theorem handleGroup_appErr (g : AVP) : AppErr (vsaMalformed g) (handleGroup appOK g).1.2 := by
  unfold handleGroup vsaMalformed
  cases g.data with
  | group kids =>
    dsimp only
    split
    · exact .inl rfl
    · refine hgLoop_pres appOK _ _ _ _ _ (.inl rfl) fun k hk c hc => ?_
      unfold memberRes
      split
      next e => exact (validate_appErr appOK 2 k).mono fun h => List.any_eq_true.mpr ⟨k, hk, by rw [e, h]; rfl⟩
      split
      next e => exact (validate_appErr appOK 1 k).mono fun h => List.any_eq_true.mpr ⟨k, hk, by rw [e, h]; rfl⟩
      · exact hc
  | _ => exact .inr (.inr ⟨rfl, rfl⟩)

/-- every error of `Application.Parse` is "no common application" or stems from a malformed AVP -/
theorem appParse_appErr (acct auth vsas : List AVP) :
    AppErr ((acct ++ auth).any (fun a => notU32 a.data) || vsas.any vsaMalformed) (appParse appOK acct auth vsas).1 := by
  unfold appParse appParseOf
  split
  · rw [vsLoop_eq]
    refine chLoop_pres _ _ _ _ _ _ (chooseErr_pres _ _ _ _ ?_ ?_) fun g hg => ?_
    · exact (validateAll_appErr appOK 2 acct).mono fun h => by rw [List.any_append, h]; rfl
    · exact (validateAll_appErr appOK 1 auth).mono fun h => by rw [List.any_append, h, Bool.or_true]; rfl
    · exact (handleGroup_appErr appOK g).mono fun h => by rw [List.any_eq_true.mpr ⟨g, hg, h⟩, Bool.or_true]
  · split
    · exact .inr (.inl rfl)
    · exact .inl rfl

/-- `memberValid` and `groupValid` are the Spec's inline tests -/
theorem hasCommonApp_eq (as : List AVP) : hasCommonApp appOK as =
    ((allOf C.acctApp as).any (validApp appOK 2) || (allOf C.authApp as).any (validApp appOK 1) ||
      (allOf C.vsa as).any (groupValid appOK)) := rfl

/-- `Application.Parse` returns no error exactly when some application AVP is valid -/
theorem appParse_spec (as : List AVP) :
    ((appParse appOK (allOf C.acctApp as) (allOf C.authApp as) (allOf C.vsa as)).1 = none ↔
      hasCommonApp appOK as = true) ∧
    ((appParse appOK (allOf C.acctApp as) (allOf C.authApp as) (allOf C.vsa as)).2 = [] ↔
      hasCommonApp appOK as = false) := by
  have h := appParse_nil appOK (allOf C.acctApp as) (allOf C.authApp as) (allOf C.vsa as)
  rw [← hasCommonApp_eq] at h
  exact ⟨by rw [appParse_none, Ne, h, Bool.not_eq_false], h⟩

theorem appParse_malformed (as : List AVP) :
    AppErr (malformed as) (appParse appOK (allOf C.acctApp as) (allOf C.authApp as) (allOf C.vsa as)).1 :=
  (appParse_appErr appOK _ _ _).mono fun h => by unfold malformed; rw [Bool.or_assoc, h, Bool.or_true]

theorem mem_allOf (code : Nat) (as : List AVP) (a : AVP) (h : a ∈ allOf code as) : a.code = code := by
  simpa [allOf] using (List.mem_filter.mp h).2

/-- in-band security is fine when it is neither required nor malformed -/
theorem inbandOK_eq (as : List AVP) : inbandOK as = (!inbandRequired as && !inbandMalformed as) := by
  unfold inbandOK inbandRequired inbandMalformed
  cases firstOf C.inband as with
  | none => rfl
  | some a =>
    dsimp only
    cases a.data with
    | fix t n => cases h : t == T.u32 <;> simp [notU32, bne, h]
    | _ => rfl

/-- `CER.Parse` in the Spec's terms: its checks in order, then `Application.Parse` -/
theorem cerParse_eq (as : List AVP) :
    cerParse appOK as =
      if hasHost as = false then .error .missingHost
      else if hasRealm as = false then .error .missingRealm
      else if inbandRequired as = true then .error .noCommonSecurity
      else if inbandMalformed as = true then .error .unexpected
      else match appParse appOK (allOf C.acctApp as) (allOf C.authApp as) (allOf C.vsa as) with
        | (some e, _) => .error e
        | (none, ids) => .ok ⟨strField C.originHost as, strField C.originRealm as, firstOf C.originStateId as, ids⟩ := by
  unfold cerParse hasHost hasRealm inbandRequired inbandMalformed
  dsimp only
  cases (strField C.originHost as).isEmpty <;> cases (strField C.originRealm as).isEmpty <;> try rfl
  cases firstOf C.inband as with
  | none => rfl
  | some a =>
    obtain ⟨_, _, _, _, d⟩ := a
    cases d with
    | fix t n =>
      by_cases ht : t = T.u32
      · by_cases hn : n = 0
        · simp [ht, hn, notU32]; rfl
        · simp [ht, hn]
      · simp [ht, notU32]
    | _ => rfl

/-- what `CER.Parse` returns: a view exactly when the Spec accepts - with the peer's identity and
    the ids `Application.Parse` collected, at least one - and otherwise an error whose Result-Code
    names a cause that applies -/
theorem cerParse_spec (as : List AVP) :
    match cerParse appOK as with
    | .ok v => accept appOK as = true ∧ v.ids ≠ [] ∧
        v = ⟨strField C.originHost as, strField C.originRealm as, firstOf C.originStateId as,
          (appParse appOK (allOf C.acctApp as) (allOf C.authApp as) (allOf C.vsa as)).2⟩
    | .error e => accept appOK as = false ∧ applies appOK (rcOf e) as = true := by
  rw [cerParse_eq]
  unfold accept applies
  by_cases hh : hasHost as = false
  · simp [hh, rcOf]
  by_cases hr : hasRealm as = false
  · simp [hh, hr, rcOf]
  by_cases hq : inbandRequired as = true
  · simp [hh, hr, hq, rcOf, inbandOK_eq]
  by_cases hm : inbandMalformed as = true
  · simp [hh, hr, hq, hm, rcOf, inbandOK_eq, malformed]
  have hsp := appParse_spec appOK as
  have he := appParse_malformed appOK as
  simp only [hh, hr, hq, hm]
  cases hp : appParse appOK (allOf C.acctApp as) (allOf C.authApp as) (allOf C.vsa as) with
  | mk e ids =>
    rw [hp] at hsp he
    cases e with
    | none =>
      have hc := hsp.1.mp rfl
      simpa [hc, inbandOK_eq, hq, hm] using hsp.2
    | some e =>
      have hc : hasCommonApp appOK as = false := by simpa using hsp.1
      rcases he with he | he | ⟨he, hm'⟩ <;> cases he
      · simp [rcOf, hc]       -- no common application: 5010
      · simp [rcOf, hm', hc]  -- unexpected, from a malformed AVP: 5012

end DV
