import Proofs.SM
import Proofs.Mux
/-! The server-side state machine: the answers it builds (`mkMsg (answerHdr req x) as`), what one
    inbound message can do (`smStep_cases`), and which registrations `sm.New` keeps. -/
namespace DV
open DV.Spec

theorem foldl_addAVP (as : List AVP) : ∀ m : Msg,
    (as.foldl Msg.addAVP m).avps = m.avps ++ as ∧ ∃ n, (as.foldl Msg.addAVP m).hdr = { m.hdr with len := n } := by
  induction as with
  | nil => exact fun m => ⟨by simp, m.hdr.len, rfl⟩
  | cons a r ih => exact fun m => ⟨by simp [(ih _).1, Msg.addAVP], (ih (m.addAVP a)).2⟩

theorem mkMsg_avps (h : Header) (as : List AVP) : (mkMsg h as).avps = as := by
  simp [mkMsg, foldl_addAVP]

/-- `AddAVP` touches only the length of the header -/
theorem mkMsg_hdr (h : Header) (as : List AVP) : ∃ n, (mkMsg h as).hdr = { h with len := n } :=
  (foldl_addAVP as _).2

/-- clearing the R bit of a flags octet -/
theorem clearR (f : Nat) :
    isRequest (if isRequest f then f - 128 else f) = false ∧ (if isRequest f then f - 128 else f) % 128 = f % 128 := by
  unfold isRequest
  by_cases hr : f / 128 % 2 = 1 <;> simp [hr] <;> omega

/-- the E bit of an error answer: set in the request already, or added; clearing R does not reach it -/
theorem setE (f : Nat) :
    ((if isRequest f then f - 128 else f) + (if f / 32 % 2 = 1 then 0 else 32)) / 32 % 2 = 1 := by
  unfold isRequest
  by_cases hr : f / 128 % 2 = 1 <;> by_cases he : f / 32 % 2 = 1 <;> simp [hr, he] <;> omega

/-- `m` mirrors the request with header `req`: its identifiers, command and application; the flags are the
    request's with the R bit cleared, plus `x`; the AVPs are `as` -/
structure Mirrors (req : Header) (x : Nat) (as : List AVP) (m : Msg) : Prop where
  hbh : m.hdr.hbh = req.hbh
  e2e : m.hdr.e2e = req.e2e
  cmd : m.hdr.cmd = req.cmd
  app : m.hdr.app = req.app
  flags : m.hdr.flags = (if isRequest req.flags then req.flags - 128 else req.flags) + x
  avps : m.avps = as

/-- every answer of the state machine is built this way -/
theorem mkMsg_answerHdr (req : Header) (x : Nat) (as : List AVP) : Mirrors req x as (mkMsg (answerHdr req x) as) := by
  obtain ⟨n, h⟩ := mkMsg_hdr (answerHdr req x) as
  refine ⟨?_, ?_, ?_, ?_, ?_, mkMsg_avps _ as⟩ <;> rw [h] <;> rfl

theorem dwa_fields (cfg : Settings) (req : Header) :
    Mirrors req 0 ([newAVP C.resultCode 64 0 (.fix T.u32 2001),
      newAVP C.originHost 64 0 (.str T.ident cfg.originHost), newAVP C.originRealm 64 0 (.str T.ident cfg.originRealm)]
      ++ (if cfg.originStateId ≠ 0 then [newAVP C.originStateId 64 0 (.fix T.u32 cfg.originStateId)] else []))
      (dwa cfg req) :=
  mkMsg_answerHdr ..

theorem successCEA_fields (cfg : Settings) (apps : List SApp) (ips : List Bytes) (req : Header) (v : CERView) :
    Mirrors req 0 ([newAVP C.resultCode 64 0 (.fix T.u32 2001)] ++ ceaCommon cfg ips v.osid ++ appAVPs apps ++ fw cfg)
      (successCEA cfg apps ips req v) :=
  mkMsg_answerHdr ..

theorem errorCEA_fields (cfg : Settings) (ips : List Bytes) (req : Header) (osid : Option AVP) (e : PErr) :
    Mirrors req (if req.flags / 32 % 2 = 1 then 0 else 32)
      ([newAVP C.resultCode 64 0 (.fix T.u32 (rcOf e))] ++ ceaCommon cfg ips osid ++ fw cfg) (errorCEA cfg ips req osid e) :=
  mkMsg_answerHdr ..

/-- an action that neither invokes an application handler nor stores metadata -/
def quiet : Act → Bool
  | .app _ | .setMeta _ => false
  | _ => true

/-- what one inbound message can do: complete the handshake (a parsed CER on an open connection
    without metadata: success CEA written, metadata stored), invoke an application handler (only
    with metadata), or neither - then no handler runs and the metadata stays as it is -/
theorem smStep_cases (env : SMEnv) (short : Option Nat) (s : ConnSt) (m : Msg) :
    (∃ ips v, s.peer.isSome = false ∧ s.closed = false ∧ env.ips = some ips ∧ cerParse env.appOK m.avps = .ok v ∧
      smStep env short s m = ({ s with peer := some ⟨v.host, v.realm, v.ids⟩ },
        [.wrote (successCEA env.cfg env.apps ips m.hdr v), .setMeta ⟨v.host, v.realm, v.ids⟩])) ∨
    (∃ k, s.peer.isSome = true ∧ smStep env short s m = (s, [.app k])) ∨
    ((smStep env short s m).1.peer = s.peer ∧ (smStep env short s m).2.all quiet = true) := by
  fun_cases smStep env short s m
  -- every branch is quiet but two
  all_goals try exact .inr (.inr ⟨rfl, rfl⟩)
  next _ _ hp v hv ips hi hc => -- a parsed CER on an open connection without metadata: the handshake completes
    exact .inl ⟨ips, v, Bool.eq_false_iff.2 hp, Bool.eq_false_iff.2 hc, hi, hv, rfl⟩
  next _ _ hp => exact .inr (.inl ⟨_, hp, rfl⟩) -- an application handler on a connection with metadata

theorem not_quiet {acts : List Act} {a : Act} (hq : acts.all quiet = true) (h : a ∈ acts) (ha : quiet a = false) : False :=
  Bool.false_ne_true (ha ▸ List.all_eq_true.mp hq a h)

/-- metadata appears on a connection only through a step that also records `setMeta` -/
theorem peer_set (env : SMEnv) (short : Option Nat) (s : ConnSt) (m : Msg)
    (h0 : s.peer = none) (h1 : (smStep env short s m).1.peer ≠ none) :
    ∃ mt, Act.setMeta mt ∈ (smStep env short s m).2 := by
  rcases smStep_cases env short s m with ⟨_, _, _, _, _, _, e⟩ | ⟨_, _, e⟩ | ⟨hp, _⟩
  · rw [e]; exact ⟨_, List.mem_cons_of_mem _ List.mem_cons_self⟩
  · rw [e] at h1; exact absurd h0 h1
  · exact absurd (hp.trans h0) h1

/-- a registration that `HandleFunc` / `HandleIdx` do not refuse answers for none of the built-in keys -/
theorem kept_not_builtin (ce dw : Nat) (regs : List Reg) (r : Reg) (hr : r ∈ regs.filter (fun r => ¬ refused ce dw r)) :
    byIdx 0 257 true r = none ∧ byIdx 0 280 true r = none ∧
    byName ce true r = none ∧ byName ce false r = none ∧ byName dw true r = none := by
  have hn : refused ce dw r = false := by simpa using (List.mem_filter.mp hr).2
  cases r with
  | name s x _ => simp [byIdx, byName, refused] at hn ⊢; omega
  | idx a c q _ => simp [byIdx, byName, refused] at hn ⊢; exact ⟨fun ha hc => absurd hc (hn.1 ha), hn.2⟩
  | all _ => simp [byIdx, byName, allIdx]

end DV
