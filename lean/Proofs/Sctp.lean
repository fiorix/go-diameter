import Model.Sctp
import Proofs.Split
/-! The SCTP demultiplexer, stream by stream (C19): putting a chunk read from the socket behind its
    stream's buffer changes no stream's unconsumed bytes (`sockRead_some`); a read for stream σ (`RdSpec`) and the
    `ReadAtLeast` loop (`MoreSpec`) take σ's next bytes and leave the other streams alone; so one iteration of the
    reader loop is the reference step on the stream it reads (`readMessage_core`). -/
namespace DV
open DV.Spec

def SS.sockBytes (s : SS) (σ : Nat) : Bytes := ((s.chunks.filter (fun c => c.1 = σ)).map (·.2)).flatten

theorem SS.streamBytes_eq (s : SS) (σ : Nat) : s.streamBytes σ = s.bufs σ ++ s.sockBytes σ := rfl

@[simp] theorem setBuf_same {f : Nat → Bytes} {σ : Nat} {b : Bytes} : setBuf f σ b σ = b := if_pos rfl
theorem setBuf_other {f : Nat → Bytes} {σ τ : Nat} {b : Bytes} (h : τ ≠ σ) : setBuf f σ b τ = f τ := if_neg h

/-- for the streams' unconsumed bytes, buffering a chunk is putting it back at the head of the socket -/
theorem SS.streamBytes_buffer (bufs : Nat → Bytes) (τ : Nat) (d : Bytes) (r : List (Nat × Bytes)) (fin : Fin) (υ : Nat) :
    (SS.buffer ⟨bufs, r, fin⟩ τ d).streamBytes υ = SS.streamBytes ⟨bufs, (τ, d) :: r, fin⟩ υ := by
  simp only [SS.streamBytes, SS.buffer, List.filter_cons]
  by_cases e : τ = υ
  · subst e; simp
  · simp [e, setBuf_other (Ne.symm e)]

theorem SS.streamBytes_split (bufs : Nat → Bytes) (τ : Nat) (d1 d2 : Bytes) (r : List (Nat × Bytes)) (fin : Fin) (υ : Nat) :
    SS.streamBytes ⟨bufs, (τ, d1) :: (τ, d2) :: r, fin⟩ υ = SS.streamBytes ⟨bufs, (τ, d1 ++ d2) :: r, fin⟩ υ := by
  by_cases e : τ = υ <;> simp [SS.streamBytes, e]

/-- `SCTPRead` returns nothing only when the socket is drained -/
theorem sockRead_none {s s' : SS} {want : Nat} (h : s.sockRead want = (none, s')) : s' = s ∧ s.chunks = [] := by
  revert h
  fun_cases SS.sockRead s want <;> rintro ⟨⟩
  next hc => exact ⟨rfl, hc⟩

/-- ... else a non-empty piece `d`, of at most `want` octets, of the head chunk. Putting `d` behind its stream's
    buffer gives back every stream's unconsumed bytes. -/
theorem sockRead_some {s s' : SS} {want τ : Nat} {d : Bytes} (hw : s.wf) (hwant : 0 < want)
    (h : s.sockRead want = (some (τ, d), s')) :
    s'.wf ∧ s'.fin = s.fin ∧ 0 < d.length ∧ d.length ≤ want ∧
      s.sockTotal = d.length + s'.sockTotal ∧ ∀ υ, (s'.buffer τ d).streamBytes υ = s.streamBytes υ := by
  obtain ⟨bufs, chunks, fin⟩ := s
  revert h
  fun_cases SS.sockRead _ want <;> rintro ⟨⟩
  next r hle hc => -- the whole head chunk
    obtain rfl : chunks = _ := hc
    obtain ⟨hd, hr⟩ := List.forall_mem_cons.mp hw
    exact ⟨hr, rfl, hd, hle, List.length_append, SS.streamBytes_buffer bufs τ d r fin⟩
  next d r hle hc => -- its first `want` octets; the rest stays at the head
    obtain rfl : chunks = _ := hc
    obtain ⟨hd, hr⟩ := List.forall_mem_cons.mp hw
    refine ⟨List.forall_mem_cons.mpr ⟨?_, hr⟩, rfl, ?_, List.length_take_le _ _, ?_, fun υ => ?_⟩
    · rw [List.length_drop]; omega
    · rw [List.length_take]; omega
    · show (d ++ _).length = (d.take want).length + (d.drop want ++ _).length
      rw [← List.length_append, ← List.append_assoc, List.take_append_drop]
    · rw [SS.streamBytes_buffer, SS.streamBytes_split, List.take_append_drop]

/-- what a read for stream σ into a buffer of `want` bytes guarantees -/
structure RdSpec (s : SS) (σ want : Nat) (d : Bytes) (ok : Bool) (s' : SS) : Prop where
  wf : s'.wf
  fin : s'.fin = s.fin
  others : ∀ τ, τ ≠ σ → s'.streamBytes τ = s.streamBytes τ
  mine : s.streamBytes σ = d ++ s'.streamBytes σ
  le : d.length ≤ want
  okpos : ok = true → 0 < d.length
  fail : ok = false → d = [] ∧ s.streamBytes σ = []
  total : s'.sockTotal ≤ s.sockTotal

/-- a read that sees the same unconsumed bytes on every stream guarantees the same -/
theorem RdSpec.of_eq {s0 s s' : SS} {σ want : Nat} {d : Bytes} {ok : Bool} (r : RdSpec s σ want d ok s')
    (hb : ∀ υ, s.streamBytes υ = s0.streamBytes υ) (hf : s.fin = s0.fin) (ht : s.sockTotal ≤ s0.sockTotal) :
    RdSpec s0 σ want d ok s' :=
  ⟨r.wf, r.fin.trans hf, fun τ hτ => (r.others τ hτ).trans (hb τ), (hb σ) ▸ r.mine, r.le, r.okpos,
    fun h => (hb σ) ▸ r.fail h, Nat.le_trans r.total ht⟩

theorem bufRead_eq {s s' : SS} {σ want : Nat} {d : Bytes} (hw : s.wf) (hwant : 0 < want)
    (hne : ¬ (s.bufs σ).isEmpty = true) (h : s.bufRead σ want = (d, s')) : RdSpec s σ want d true s' := by
  cases h
  have hpos : 0 < (s.bufs σ).length := List.length_pos_iff.mpr (mt List.isEmpty_iff.mpr hne)
  refine ⟨hw, rfl, ?_, ?_, List.length_take_le _ _, ?_, nofun, Nat.le_refl _⟩
  · intro τ hτ
    simp [SS.streamBytes, setBuf_other hτ]
  · simp only [SS.streamBytes, setBuf_same]
    rw [← List.append_assoc, List.take_append_drop]
  · intro _; simp only [List.length_take]; omega

theorem verify_eq {s0 s s' : SS} {σ want : Nat} {d d' : Bytes} (hw0 : s0.wf) (hwant : 0 < want)
    (h : s0.sockRead want = (some (σ, d), s)) (hv : s.verify σ d want = (d', s')) : RdSpec s0 σ want d' true s' := by
  obtain ⟨hw, hf, hd0, hdle, htot, hsb⟩ := sockRead_some hw0 hwant h
  have ht : s.sockTotal ≤ s0.sockTotal := by omega
  revert hv
  fun_cases SS.verify s σ d want
  next hemp =>
    rintro ⟨⟩
    have he : s.bufs σ = [] := List.isEmpty_iff.mp hemp
    refine ⟨hw, hf, fun τ hτ => ?_, ?_, hdle, fun _ => hd0, nofun, ht⟩
    · rw [← hsb τ]; simp [SS.buffer, SS.streamBytes, setBuf_other hτ]
    · rw [← hsb σ]; simp [SS.buffer, SS.streamBytes, he]
  next hne =>
    -- the buffer was not empty, and is not after `d` went behind it
    have hne' : ¬ ((s.buffer σ d).bufs σ).isEmpty = true := by
      show ¬ (setBuf s.bufs σ (s.bufs σ ++ d) σ).isEmpty = true
      rw [setBuf_same, List.isEmpty_iff, List.append_eq_nil_iff]
      exact fun h => hne (List.isEmpty_iff.mpr h.1)
    exact fun hv => (bufRead_eq (s := s.buffer σ d) hw hwant hne' hv).of_eq hsb hf ht

theorem readStream_eq {fuel want σ : Nat} {s s' : SS} {d : Bytes} {ok : Bool} (hw : s.wf) (hwant : 0 < want)
    (hf : s.sockTotal + 1 ≤ fuel) (h : readStream fuel want σ s = ((d, ok), s')) : RdSpec s σ want d ok s' := by
  revert h
  fun_induction readStream fuel want σ s with
  | case1 => omega
  | case2 fuel want σ s hne d1 s1 hb => rintro ⟨⟩; exact bufRead_eq hw hwant hne hb -- σ has buffered data
  | case3 fuel want σ s he s1 hrd => -- the socket is drained
    rintro ⟨⟩
    obtain ⟨rfl, hc⟩ := sockRead_none hrd
    exact { wf := hw, fin := rfl, others := fun _ _ => rfl, total := Nat.le_refl _, mine := rfl, le := Nat.zero_le _
            okpos := nofun
            fail := fun _ => by simp [SS.streamBytes, List.isEmpty_iff.mp (Decidable.not_not.mp he), hc] }
  | case4 fuel want s σ d1 s1 hrd d2 s2 he hv => rintro ⟨⟩; exact verify_eq hw hwant hrd hv -- a chunk of σ
  | case5 fuel want σ s he τ d1 s1 hrd hτ ih =>
    -- a chunk of another stream is buffered: no stream's bytes change (`of_eq`), and the socket has shrunk
    obtain ⟨hw1, hf1, hd0, -, htot, hsb⟩ := sockRead_some hw hwant hrd
    exact fun h => (ih hw1 hwant (by show s1.sockTotal + 1 ≤ fuel; omega) h).of_eq hsb hf1
      (by show s1.sockTotal ≤ s.sockTotal; omega)

/-- what the `ReadAtLeast` loop guarantees: exactly the next `need` bytes of stream σ, or the
    stream ran dry -/
structure MoreSpec (s : SS) (σ need : Nat) (acc res : Bytes) (ok : Bool) (s' : SS) : Prop where
  wf : s'.wf
  fin : s'.fin = s.fin
  others : ∀ τ, τ ≠ σ → s'.streamBytes τ = s.streamBytes τ
  okcase : ok = true → res = acc ++ (s.streamBytes σ).take need ∧ s'.streamBytes σ = (s.streamBytes σ).drop need ∧
      need ≤ (s.streamBytes σ).length
  failcase : ok = false → (s.streamBytes σ).length < need

/-- a read for σ followed by the `ReadAtLeast` loop for the rest is the loop for all of it -/
theorem MoreSpec.step {s s1 s2 : SS} {σ need : Nat} {acc d res : Bytes} {ok : Bool}
    (r : RdSpec s σ need d true s1) (m : MoreSpec s1 σ (need - d.length) (acc ++ d) res ok s2) :
    MoreSpec s σ need acc res ok s2 := by
  refine ⟨m.wf, m.fin.trans r.fin, fun τ hτ => (m.others τ hτ).trans (r.others τ hτ), fun hok => ?_, fun hf => ?_⟩
  · obtain ⟨h1, h2, h3⟩ := m.okcase hok
    rw [r.mine]
    exact ⟨by rw [h1, List.take_append, List.take_of_length_le r.le, List.append_assoc],
      by rw [h2, List.drop_append, List.drop_of_length_le r.le, List.nil_append],
      by rw [List.length_append]; omega⟩
  · have := m.failcase hf
    rw [r.mine, List.length_append]; omega

theorem readMore_eq {fuel need σ : Nat} {acc res : Bytes} {s s' : SS} {ok : Bool} (hw : s.wf) (hf : need ≤ fuel)
    (h : readMore fuel need σ acc s = ((res, ok), s')) : MoreSpec s σ need acc res ok s' := by
  revert h
  fun_induction readMore fuel need σ acc s with
  | case1 =>
    rintro ⟨⟩
    exact { wf := hw, fin := rfl, others := fun _ _ => rfl, failcase := nofun, okcase := fun _ => by simp }
  | case2 _ _ _ _ hn => exact (hn (Nat.le_zero.mp hf)).elim
  | case3 fuel need σ acc s d s1 hrs ih =>
    have r := readStream_eq hw (Nat.succ_pos need) (Nat.le_refl _) hrs
    have := r.okpos rfl
    exact fun h => MoreSpec.step r (ih r.wf (by omega) h)
  | case4 fuel need σ acc s d s1 hrs => -- the stream ran dry
    rintro ⟨⟩
    have r := readStream_eq hw (Nat.succ_pos need) (Nat.le_refl _) hrs
    obtain ⟨hd, hsb⟩ := r.fail rfl
    exact ⟨r.wf, r.fin, r.others, nofun, fun _ => by rw [hsb]; simp⟩

theorem readAny_eq {pick : Option Nat} {want σ : Nat} {s s' : SS} {d : Bytes} (hw : s.wf) (hwant : 0 < want)
    (h : readAny pick want s = ((d, σ, true), s')) : RdSpec s σ want d true s' := by
  revert h
  fun_cases readAny pick want s <;> rintro ⟨⟩
  next hp hb => -- the heap's top is σ, with data buffered
    have hne : ¬ (s.bufs σ).isEmpty = true := by
      cases pick with
      | none => cases hp
      | some σ' =>
        obtain ⟨hh, ⟨⟩⟩ := Option.ite_none_left_eq_some.mp hp
        exact hh
    exact bufRead_eq hw hwant hne hb
  next hrd hv => exact verify_eq hw hwant hrd hv

/-- the header: `ReadAny`, then the `ReadAtLeast` loop on the stream it chose, is an exact read of 20 octets -/
theorem readHeader_eq {pick : Option Nat} {s s1 s2 : SS} {h0 hb : Bytes} {σ : Nat} {ok : Bool} (hw : s.wf)
    (hra : readAny pick 20 s = ((h0, σ, true), s1)) (hrm : readMore 20 (20 - h0.length) σ h0 s1 = ((hb, ok), s2)) :
    s.streamBytes σ ≠ [] ∧ MoreSpec s σ 20 [] hb ok s2 := by
  have r := readAny_eq hw (by omega) hra
  refine ⟨List.ne_nil_of_length_pos ?_, MoreSpec.step r (readMore_eq r.wf (Nat.sub_le _ _) hrm)⟩
  rw [r.mine, List.length_append]
  exact Nat.lt_of_lt_of_le (r.okpos rfl) (Nat.le_add_right _ _)

/-- One iteration of the reader loop that could choose a stream: the outcome is the reference
    step on the unconsumed bytes of the stream it is tagged with; no other stream's bytes are
    touched; after a message exactly its bytes are gone from the stream. -/
theorem readMessage_core (d : DictFn) (pick : Option Nat) {s s' : SS} (hw : s.wf) {res : MsgRes} {σ : Nat}
    (hany : (readAny pick 20 s).1.2.2 = true) (h : s.readMessage d pick = ((res, σ), s')) :
    ∃ n, splitStep d (s.streamBytes σ) s.fin = (res, n) ∧ s'.wf ∧ s'.fin = s.fin ∧
      (∀ τ, τ ≠ σ → s'.streamBytes τ = s.streamBytes τ) ∧
      (∀ m, res = .msg m → s'.streamBytes σ = (s.streamBytes σ).drop n) := by
  revert h
  fun_cases SS.readMessage d pick s <;> rintro ⟨⟩
  next hra => rw [hra] at hany; cases hany -- `ReadAny` failed
  next hra hrm => -- the header is short
    obtain ⟨hne, rm⟩ := readHeader_eq hw hra hrm
    exact ⟨_, splitStep_short d _ _ hne (rm.failcase rfl), rm.wf, rm.fin, rm.others, nofun⟩
  next hdh hcr hra hrm => -- unknown command
    obtain ⟨-, rm⟩ := readHeader_eq hw hra hrm
    exact ⟨_, by rw [splitStep_header d s.fin ((rm.okcase rfl).1 ▸ hdh), hcr], rm.wf, rm.fin, rm.others, nofun⟩
  next hdh _ hcr hl hra hrm => -- declared length below 20
    obtain ⟨-, rm⟩ := readHeader_eq hw hra hrm
    exact ⟨_, by rw [splitStep_header d s.fin ((rm.okcase rfl).1 ▸ hdh), hcr]; exact if_pos hl,
      rm.wf, rm.fin, rm.others, nofun⟩
  next hdh _ hcr hl _ hra hrm hrb => -- the body is read
    obtain ⟨-, rm⟩ := readHeader_eq hw hra hrm
    obtain ⟨e1, e2, e3⟩ := rm.okcase rfl
    have rb := readMore_eq rm.wf (Nat.le_refl _) hrb
    obtain ⟨b1, b2, b3⟩ := rb.okcase rfl
    rw [e2] at b1 b2 b3
    rw [List.length_drop] at b3
    exact ⟨_, by rw [splitStep_header d s.fin (e1 ▸ hdh), hcr, if_neg hl, if_neg (by omega), b1, List.nil_append],
      rb.wf, rb.fin.trans rm.fin, fun τ hτ => (rb.others τ hτ).trans (rm.others τ hτ),
      fun _ _ => by rw [b2, List.drop_drop, Nat.add_sub_cancel' (Nat.le_of_not_lt hl)]⟩
  next hdh _ hcr hl _ hra hrm hrb => -- the stream ends inside the body
    obtain ⟨-, rm⟩ := readHeader_eq hw hra hrm
    obtain ⟨e1, e2, -⟩ := rm.okcase rfl
    have rb := readMore_eq rm.wf (Nat.le_refl _) hrb
    have := rb.failcase rfl
    rw [e2, List.length_drop] at this
    exact ⟨_, by rw [splitStep_header d s.fin (e1 ▸ hdh), hcr, if_neg hl, if_pos (by omega)],
      rb.wf, rb.fin.trans rm.fin, fun τ hτ => (rb.others τ hτ).trans (rm.others τ hτ), nofun⟩
  next hnd hra hrm => -- 20 octets always decode as a header
    obtain ⟨-, rm⟩ := readHeader_eq hw hra hrm
    obtain ⟨e1, -, e3⟩ := rm.okcase rfl
    obtain ⟨hd, hdh⟩ := decodeHeader_take e3
    exact (hnd hd (e1 ▸ hdh)).elim

theorem readMessage_msg {d : DictFn} {pick : Option Nat} {s s' : SS} {m : Msg} {σ : Nat}
    (h : s.readMessage d pick = ((.msg m, σ), s')) : (readAny pick 20 s).1.2.2 = true := by
  rw [SS.readMessage] at h
  split at h
  next => revert h; cases s.fin <;> nofun
  next hra => rw [hra]

/-- Per stream: the messages the reader loop delivers from stream σ are, in order, exactly the
    first messages of the reference split of σ's own byte sequence, and what is left of σ is what
    follows them - for every chunking, every interleaving and every choice the buffer heap makes. -/
theorem readLoopS_perstream (d : DictFn) : ∀ (picks : List (Option Nat)) (s : SS), s.wf → ∀ σ,
    onStream σ (s.readLoopS d picks).1 = splitMsgs d (onStream σ (s.readLoopS d picks).1).length (s.streamBytes σ) s.fin ∧
    (s.readLoopS d picks).2.streamBytes σ = splitRest d (onStream σ (s.readLoopS d picks).1).length (s.streamBytes σ) s.fin ∧
    (s.readLoopS d picks).2.fin = s.fin := by
  intro picks s hw σ
  fun_induction SS.readLoopS d picks s with
  | case1 => exact ⟨rfl, rfl, rfl⟩
  | case2 p ps s m τ s' hrm r sf hrl ih =>
    obtain ⟨n, hs, hw', hfin', hoth, hdrop⟩ := readMessage_core d p hw (readMessage_msg hrm) hrm
    rw [hrl] at ih
    obtain ⟨ih1, ih2, ih3⟩ := ih hw'
    by_cases hστ : τ = σ
    · subst hστ
      rw [hdrop m rfl, hfin'] at ih1 ih2
      simp only [onStream, List.filterMap_cons, if_true, List.length_cons, splitMsgs, splitRest, hs]
      exact ⟨congrArg _ ih1, ih2, ih3.trans hfin'⟩
    · rw [hoth σ (Ne.symm hστ), hfin'] at ih1 ih2
      simp only [onStream, List.filterMap_cons, hστ, if_false]
      exact ⟨ih1, ih2, ih3.trans hfin'⟩
  | case3 => exact ⟨rfl, rfl, rfl⟩

end DV
