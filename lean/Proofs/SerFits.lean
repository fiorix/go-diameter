import Proofs.Frame
/-!
  Every value the decoder can return serialises to exactly `Len()` octets: `AVP.SerializeTo`,
  given the `Len()`-sized window that `Message.Serialize` / `GroupedAVP.Serialize` /
  `AVP.Serialize` hand it, never runs past it (its only panic sites are the slice
  `b[hl+len(payload):]` and the padding loop) and leaves no octet unwritten - for every byte
  string that decodes, whether or not it is well formed (lenient zero values, odd Address
  shapes, wrong-width payloads included).
-/
namespace DV
open DV.Spec

mutual
/-- the value fills its `Len()` exactly, at every depth -/
def fitsV : Val → Bool
  | .group as => fitsL as
  | v => v.ser.length == v.len
def fitsA : AVP → Bool
  | .mk _ _ _ _ d => fitsV d
def fitsL : List AVP → Bool
  | [] => true
  | a :: r => fitsA a && fitsL r
end

/-- the lenient zero value of a fixed-width address type has the width too -/
theorem length_ite_zeros (p : Bytes) (k : Nat) : (if p.length = k then p else zeros k).length = k := by
  split
  · assumption
  · exact List.length_replicate

theorem leaf_fits (t : Nat) (p : Bytes) (v : Val) (h : decodeLeaf t p = .ok v) : fitsV v = true := by
  cases t using T.cases with
  | str ht => rw [decodeLeaf_str ht] at h; cases h; exact beq_self_eq_true _
  | addr => rw [decodeLeaf_address_ok h]; exact beq_iff_eq.mpr (addr_fits _)
  | fix ht => rw [decodeLeaf_fix ht] at h; cases h; exact beq_iff_eq.mpr (be_length _ _)
  | ip4 =>
    rw [decodeLeaf_ipv4] at h; cases h
    exact beq_iff_eq.mpr (by rw [Val.ser, to4_len4 (length_ite_zeros p 4), length_ite_zeros]; rfl)
  | ip6 =>
    rw [decodeLeaf_ipv6] at h; cases h
    exact beq_iff_eq.mpr (by rw [Val.ser, to16_len16 (length_ite_zeros p 16), length_ite_zeros]; rfl)
  | time => rw [decodeLeaf_time] at h; cases h; exact beq_iff_eq.mpr (encTime_length _)
  | other ht => rw [decodeLeaf_other ht] at h; cases h

mutual
theorem typed_fits (ty : Nat → Nat → Nat) : ∀ (f : Frame) (a : AVP), typed ty f = .ok a → fitsA a = true
  | .leaf c fl l v p, a, h => by
    rw [typed_leaf] at h
    obtain ⟨d, hd, rfl⟩ := Res.mapR_eq_ok.mp h
    exact leaf_fits _ _ d hd
  | .group c fl l v kids, a, h => by
    rw [typed_group] at h
    obtain ⟨as, ha, rfl⟩ := Res.mapR_eq_ok.mp h
    exact typedL_fits ty kids as ha
theorem typedL_fits (ty : Nat → Nat → Nat) : ∀ (fs : List Frame) (as : List AVP),
    typedL ty fs = .ok as → fitsL as = true
  | [], as, h => by rw [typedL_nil] at h; cases h; rfl
  | f :: r, as, h => by
    obtain ⟨a, ar, ha, har, rfl⟩ := Res.bindR_mapR_eq_ok.mp (typedL_cons ty f r ▸ h)
    rw [fitsL, typed_fits ty f a ha, typedL_fits ty r ar har]; rfl
end

theorem decode_fits {ty : Nat → Nat → Nat} {fuel : Nat} {b : Bytes} {as : List AVP}
    (h : decodeAVPs ty fuel b = .ok as) : fitsL as = true := by
  obtain ⟨fs, -, hfs⟩ := decodeAVPs_eq_ok.mp h
  exact typedL_fits ty fs as hfs

mutual
theorem fits_ser : ∀ v : Val, fitsV v = true → v.ser.length = v.len
  | .group as, h => fits_encL as (by rwa [fitsV] at h)
  | .str .., h | .addr _, h | .ip4 _, h | .ip6 _, h | .fix .., h | .time _, h => eq_of_beq h
theorem fits_enc : ∀ a : AVP, fitsA a = true → a.enc.length = a.len
  | .mk c f l v d, h => AVP.enc_length c f l v (fits_ser d (by rwa [fitsA] at h))
theorem fits_encL : ∀ as : List AVP, fitsL as = true → (encL as).length = lenL as
  | [], _ => rfl
  | a :: r, h => by
    rw [fitsL, Bool.and_eq_true] at h
    rw [encL, lenL, List.length_append, fits_enc a h.1, fits_encL r h.2]
end

end DV
