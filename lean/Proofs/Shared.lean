import Model.Shared
import Proofs.ConnData
/-! Non-interference between connections and the shared mux lock. -/
namespace DV

theorem Sys.step_conns {d : DictFn} {df : Bool} {S S' : Sys} {k : Nat} {e : CEv} (h : S.step d df k e = some S') :
    ∃ c c', S.conns[k]? = some c ∧ c.step d e = some c' ∧ S'.conns = S.conns.set k c' := by
  revert h
  fun_cases Sys.step d df S k e <;> rintro ⟨⟩
  next c hk c' hc _ => exact ⟨c, c', hk, hc, rfl⟩

theorem Sys.frame (d : DictFn) (df : Bool) : ∀ (es : List (Nat × CEv)) (S S' : Sys) (j : Nat) (c : CN),
    S.run d df es = some S' → S.conns[j]? = some c →
    ∃ c', S'.conns[j]? = some c' ∧ c.run d (projEv j es) = some c'
  | [], S, S', j, c, h, hc => by cases h; exact ⟨c, hc, rfl⟩
  | (k, e) :: es, S, S', j, c, h, hc => by
    rw [Sys.run] at h
    split at h
    next S1 hst =>
      obtain ⟨ck, ck', hk, hstep, hset⟩ := Sys.step_conns hst
      by_cases hkj : k = j
      · -- an event of `j` itself: `c` takes the step
        cases hkj
        cases hk.symm.trans hc
        simp only [projEv, List.filterMap_cons, if_true, CN.run, hstep]
        exact Sys.frame d df es S1 S' k ck' h (by rw [hset, List.getElem?_set_self (List.getElem?_eq_some_iff.1 hk).1])
      · simp only [projEv, List.filterMap_cons, if_neg hkj]
        exact Sys.frame d df es S1 S' j c h (by rw [hset, List.getElem?_set_ne hkj, hc])
    next => cases h

/-- 1 while the connection's reader goroutine is inside a handler -/
def inH (c : CN) : Nat := if c.reader = .inHandler then 1 else 0

def Sys.inHandlers (S : Sys) : Nat := (S.conns.map inH).sum

theorem sum_map_set {α : Type} (f : α → Nat) (l : List α) (k : Nat) (c c' : α) (hk : l[k]? = some c) :
    ((l.set k c').map f).sum + f c = (l.map f).sum + f c' := by
  induction l generalizing k with
  | nil => cases hk
  | cons a r ih =>
    cases k with
    | zero => cases hk; simp only [List.set_cons_zero, List.map_cons, List.sum_cons]; omega
    | succ k =>
      have := ih k hk
      simp only [List.set_cons_succ, List.map_cons, List.sum_cons]
      omega

theorem inH_readFrom (s : CN) (src : RSrc) : inH (s.readFrom src) = 0 := by
  -- every attempt to read ends the reader loop or leaves the reader idle or blocked
  refine s.readFrom_elim (P := (inH · = 0)) src (fun _ => ?_) ?_ (fun _ _ => ?_) (fun _ => ?_) <;> simp [inH]

/-- only the reader's own step, and the handler's return or panic, change whether the connection is
    inside a handler (`generalizing := false`: `h` mentions `e`, and `match` would otherwise take it as a
    second discriminant, which no `rw` or `fun_cases` sees through) -/
theorem inH_step {d : DictFn} {c c' : CN} {e : CEv} (h : c.step d e = some c') :
    match (generalizing := false) e with
    | .readerStep => inH c = 0
    | .handlerReturn | .handlerPanic => inH c = 1 ∧ inH c' = 0
    | _ => inH c' = inH c := by
  revert h
  fun_cases CN.step d c e <;> rintro ⟨⟩ <;> dsimp only
  -- in each branch the guards say what `reader` is where that matters, and `notify` does not assign it
  all_goals simp [inH, CN.notify_eq, *]

/-- With the read lock released by `defer`, the number of read locks held on the shared mux is
    always the number of connections currently inside a handler - whatever happened before:
    handler panics, undecodable input, disconnects. -/
theorem Sys.rlocks_step (d : DictFn) (S S' : Sys) (k : Nat) (e : CEv) (hinv : S.rlocks = S.inHandlers)
    (h : S.step d true k e = some S') : S'.rlocks = S'.inHandlers := by
  revert h
  fun_cases Sys.step d true S k e <;> rintro ⟨⟩
  next c hk c' hc rl =>
    have hsum := sum_map_set inH S.conns k c c' hk
    have hin := inH_step hc
    simp only [Sys.inHandlers, rl] at hinv ⊢
    cases e <;> simp only [if_true] at hin ⊢
    case readerStep =>
      rw [show (if c'.reader = .inHandler then S.rlocks + 1 else S.rlocks) = S.rlocks + inH c' by
        unfold inH; split <;> rfl]
      omega
    case handlerReturn | handlerPanic => omega
    -- the other events leave `inH` alone, so the sum stays
    all_goals exact hinv.trans (Nat.add_right_cancel (hin ▸ hsum)).symm

theorem Sys.rlocks_run (d : DictFn) : ∀ (es : List (Nat × CEv)) (S S' : Sys), S.rlocks = S.inHandlers →
    S.run d true es = some S' → S'.rlocks = S'.inHandlers :=
  run_invariant (step := fun S ke => S.step d true ke.1 ke.2) (fun _ => rfl)
    (fun S ke _ => by rw [Sys.run]; cases S.step d true ke.1 ke.2 <;> rfl)
    (Sys.rlocks_step d _ _ _ _)

theorem Sys.init_rlocks (cs : List Bool) : (Sys.init cs).rlocks = (Sys.init cs).inHandlers := by
  simp only [Sys.init, Sys.inHandlers, List.map_map]
  induction cs with
  | nil => rfl
  | cons a r ih => simp only [List.map_cons, List.sum_cons, ← ih]; simp [inH]

end DV
