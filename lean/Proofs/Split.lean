import Proofs.Header
import Spec.Split
/-!
  The reference step `Spec.splitStep` by cases, and the one notion the readers share: *the stream `bs` starts
  with the complete wire image of the message `m`, which is `n` octets long*, that is
  `splitStep d bs fin = (.msg m, n)`. `splitStep_eq_msg` says what that means; `decodeMsg` (and, in
  `Proofs.ConnData`, `nextMsg`) succeed exactly then; `Props.C05.Whole d w m` is the case `n = w.length`.
  `Cut` is the same for a sequence of messages.
-/
namespace DV
open DV.Spec

theorem splitStep_nil (d : DictFn) (fin : Fin) :
    splitStep d [] fin = (match fin with | .eof => MsgRes.eof | .err => MsgRes.errHeader, 0) := rfl

theorem splitStep_short (d : DictFn) (bs : Bytes) (fin : Fin) (h0 : bs ≠ []) (h : bs.length < 20) :
    splitStep d bs fin = (.errHeader, bs.length) := by
  simp [splitStep, h0, h]

/-- with a whole header in the stream, the step is decided by that header and the length of the stream -/
theorem splitStep_header (d : DictFn) {bs : Bytes} (fin : Fin) {h : Header} (hh : decodeHeader (bs.take 20) = .ok h) :
    splitStep d bs fin =
      match d.cmdRules h.app h.cmd with
      | none => (.errCommand, 20)
      | some _ =>
        if h.len < 20 then (.reject, 20) else
        if bs.length < h.len then (.errBody, bs.length) else
        (decodeBody d h ((bs.drop 20).take (h.len - 20)), h.len) := by
  have h20 : 20 ≤ bs.length := Nat.le_trans (decodeHeader_ok_iff.mp ⟨h, hh⟩) (List.length_take_le' _ _)
  rw [splitStep.eq_def, if_neg (mt List.isEmpty_iff.mp (List.ne_nil_of_length_pos (by omega))), if_neg (by omega), hh]
  rfl

theorem splitStep_ne_msg {d : DictFn} {bs : Bytes} {fin : Fin} {m : Msg} {n : Nat} (h : bs.length < 20) :
    splitStep d bs fin ≠ (.msg m, n) := by
  cases bs with
  | nil => cases fin <;> nofun
  | cons a r => rw [splitStep_short d _ fin (List.cons_ne_nil _ _) h]; nofun

/-- the stream starts with a complete message: a header that declares a length within the stream, and a body
    of that length that decodes. Neither the way the stream ends nor what follows the message matters. -/
theorem splitStep_eq_msg {d : DictFn} {bs : Bytes} {fin : Fin} {m : Msg} {n : Nat} :
    splitStep d bs fin = (.msg m, n) ↔
      ∃ h, decodeHeader (bs.take 20) = .ok h ∧ 20 ≤ h.len ∧ h.len ≤ bs.length ∧ h.len = n ∧
        decodeBody d h ((bs.drop 20).take (h.len - 20)) = .msg m := by
  by_cases h20 : 20 ≤ bs.length
  · obtain ⟨h, hh⟩ := decodeHeader_take h20
    rw [splitStep_header d fin hh, hh]
    simp only [Res.ok.injEq, exists_eq_left']
    cases hc : d.cmdRules h.app h.cmd with
    | none => simp [decodeBody, hc]
    | some r =>
      dsimp only
      by_cases h1 : h.len < 20
      · simp [h1, Nat.not_le.mpr h1]
      by_cases h2 : bs.length < h.len
      · simp [h1, h2, Nat.not_le.mpr h2]
      simp [h1, h2, Nat.le_of_not_lt h1, Nat.le_of_not_lt h2, and_comm]
  · exact iff_of_false (splitStep_ne_msg (Nat.lt_of_not_le h20)) fun ⟨h, _, a, b, _⟩ => h20 (Nat.le_trans a b)

/-- ... so the same message is found at the front of every stream that starts with the same `n` octets -/
theorem splitStep_msg_prefix {d : DictFn} {bs : Bytes} {fin : Fin} {m : Msg} {n : Nat}
    (hs : splitStep d bs fin = (.msg m, n)) :
    20 ≤ n ∧ n ≤ bs.length ∧ ∀ (tail : Bytes) (fin' : Fin), splitStep d (bs.take n ++ tail) fin' = (.msg m, n) := by
  obtain ⟨h, hh, h1, h2, rfl, hb⟩ := splitStep_eq_msg.mp hs
  have hl : (bs.take h.len).length = h.len := List.length_take_of_le h2
  refine ⟨h1, h2, fun tail fin' => splitStep_eq_msg.mpr ⟨h, ?_, h1, ?_, rfl, ?_⟩⟩
  · rwa [List.take_append_of_le_length (by omega), List.take_take, Nat.min_eq_left h1]
  · rw [List.length_append]; omega
  · rwa [List.drop_append_of_le_length (by omega), List.take_append_of_le_length (by rw [List.length_drop]; omega),
      List.drop_take, List.take_take, Nat.min_self]

/-- `ReadMessage` from a buffer succeeds exactly when the buffer starts with a complete message -/
theorem decodeMsg_ok_iff {d : DictFn} {bs : Bytes} {m : Msg} (fin : Fin) :
    decodeMsg d bs = .ok m ↔ ∃ n, splitStep d bs fin = (.msg m, n) := by
  by_cases h20 : 20 ≤ bs.length
  · obtain ⟨h, hh⟩ := decodeHeader_take h20
    rw [decodeMsg, if_neg (Nat.not_lt.mpr h20), splitStep_header d fin hh, hh]
    dsimp only
    cases hc : d.cmdRules h.app h.cmd with
    | none => simp
    | some r =>
      dsimp only
      by_cases h1 : h.len < 20
      · simp [h1]
      have hlen : ((bs.drop 20).take (h.len - 20)).length < h.len - 20 ↔ bs.length < h.len := by
        rw [List.length_take, List.length_drop]; omega
      rw [if_neg h1, if_neg h1]
      by_cases h2 : bs.length < h.len
      · rw [if_pos (hlen.mpr h2), if_pos h2]; simp
      rw [if_neg (mt hlen.mp h2), if_neg h2]
      simp only [decodeBody, hc]
      by_cases hn : (if isRequest h.flags then r.1 else r.2) = 0
      · simp [hn]
      rw [if_neg hn, if_neg hn]
      generalize decodeAVPs _ _ _ = as
      cases as <;> simp
  · exact iff_of_false (by rw [decodeMsg, if_pos (Nat.lt_of_not_le h20)]; nofun)
      fun ⟨n, h⟩ => splitStep_ne_msg (Nat.lt_of_not_le h20) h

/-- what a successful `ReadMessage` from a buffer has checked -/
theorem decodeMsg_eq_ok {d : DictFn} {bs : Bytes} {m : Msg} :
    decodeMsg d bs = .ok m ↔
      ∃ h, decodeHeader (bs.take 20) = .ok h ∧ 20 ≤ h.len ∧ h.len ≤ bs.length ∧
        decodeBody d h ((bs.drop 20).take (h.len - 20)) = .msg m := by
  rw [decodeMsg_ok_iff .eof]
  constructor
  · rintro ⟨_, hs⟩
    obtain ⟨h, hh, h1, h2, -, hb⟩ := splitStep_eq_msg.mp hs
    exact ⟨h, hh, h1, h2, hb⟩
  · rintro ⟨h, hh, h1, h2, hb⟩
    exact ⟨_, splitStep_eq_msg.mpr ⟨h, hh, h1, h2, rfl, hb⟩⟩

/-- `handed` are exactly the first messages of the reference split of any stream that starts
    with `consumed`, and the split continues with what follows -/
def Cut (d : DictFn) (handed : List Msg) (consumed : Bytes) : Prop :=
  ∀ (tail : Bytes) (fin : Fin) (fuel : Nat),
    split d (handed.length + fuel) (consumed ++ tail) fin =
      (handed.map MsgRes.msg ++ (split d fuel tail fin).1, consumed.length + (split d fuel tail fin).2)

theorem Cut_nil (d : DictFn) : Cut d [] [] := by
  intro tail fin fuel; simp

theorem Cut_one {d : DictFn} {w : Bytes} {m : Msg}
    (hm : ∀ (tail : Bytes) (fin : Fin), splitStep d (w ++ tail) fin = (.msg m, w.length)) : Cut d [m] w := by
  intro tail fin fuel
  rw [List.length_singleton, Nat.add_comm, split]
  simp only [hm tail fin, List.drop_left]
  rfl

theorem Cut_append {d : DictFn} {ms ms' : List Msg} {bs bs' : Bytes} (h : Cut d ms bs) (h' : Cut d ms' bs') :
    Cut d (ms ++ ms') (bs ++ bs') := by
  intro tail fin fuel
  rw [List.length_append, Nat.add_assoc, List.append_assoc, h (bs' ++ tail) fin, h' tail fin fuel]
  simp [Nat.add_assoc]

theorem splitMsgs_nil (d : DictFn) (k : Nat) (fin : Fin) : splitMsgs d k [] fin = [] := by
  cases k <;> cases fin <;> rfl

/-- the message part of `split` -/
theorem splitMsgs_eq (d : DictFn) : ∀ (k : Nat) (bs : Bytes) (fin : Fin),
    splitMsgs d k bs fin = (split d k bs fin).1.filterMap (fun r => match r with | .msg m => some m | _ => none)
  | 0, _, _ => rfl
  | k+1, bs, fin => by
    rw [splitMsgs, split]
    cases splitStep d bs fin with
    | mk r n =>
      cases r with
      | msg m => exact congrArg (m :: ·) (splitMsgs_eq d k _ fin)
      | _ => rfl

theorem splitMsgs_done (d : DictFn) (fin : Fin) : ∀ (k : Nat) (bs : Bytes), splitRest d k bs fin = [] →
    ∀ j, splitMsgs d (k + j) bs fin = splitMsgs d k bs fin
  | 0, bs, h, j => by
    cases (h : bs = [])
    rw [splitMsgs_nil, splitMsgs_nil]
  | k+1, bs, h, j => by
    rw [Nat.add_right_comm, splitMsgs, splitMsgs]
    rw [splitRest] at h
    cases hs : splitStep d bs fin with
    | mk r n =>
      rw [hs] at h
      cases r with
      | msg m => exact congrArg _ (splitMsgs_done d fin k _ h j)
      | _ => rfl

end DV
