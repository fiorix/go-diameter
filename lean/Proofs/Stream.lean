import Proofs.Split
/-! `ReadMessage` over any fragmentation = the length-only split of the concatenated bytes (C05). -/
namespace DV
open DV.Spec

def Src.wf (s : Src) : Prop := ∀ f ∈ s.frags, 0 < f.length
def Src.bytes (s : Src) : Bytes := s.frags.flatten

theorem sum_eq_bytes (s : Src) : (s.frags.map List.length).sum = s.bytes.length := by
  simp [Src.bytes, List.length_flatten]

theorem Src.read_none {s s' : Src} {want : Nat} (h : s.read want = (none, s')) : s' = s ∧ s.bytes = [] := by
  revert h
  fun_cases Src.read s want <;> rintro ⟨⟩
  next hf => exact ⟨rfl, congrArg List.flatten hf⟩

/-- one `Read` that returns something: a non-empty piece, of at most `want` octets, off the front of the stream -/
theorem Src.read_some {s s' : Src} {want : Nat} {got : Bytes} (hw : s.wf) (hwant : 0 < want)
    (h : s.read want = (some got, s')) :
    s'.wf ∧ s'.fin = s.fin ∧ s.bytes = got ++ s'.bytes ∧ 0 < got.length ∧ got.length ≤ want := by
  revert h
  fun_cases Src.read s want <;> rintro ⟨⟩
  next r hf hle => -- the whole first fragment
    rw [Src.wf, hf, List.forall_mem_cons] at hw
    exact ⟨hw.2, rfl, congrArg List.flatten hf, hw.1, hle⟩
  next f r hf hle => -- its first `want` octets
    rw [Src.wf, hf, List.forall_mem_cons] at hw
    refine ⟨List.forall_mem_cons.mpr ⟨?_, hw.2⟩, rfl, (congrArg List.flatten hf).trans ?_, ?_, List.length_take_le _ _⟩
    · rw [List.length_drop]; omega
    · show f ++ r.flatten = f.take want ++ (f.drop want ++ r.flatten)
      rw [← List.append_assoc, List.take_append_drop]
    · rw [List.length_take]; omega

/-- what `io.ReadFull` reports when the stream is exhausted after `got` bytes -/
def rfEnd (fin : Fin) (got : Bytes) : RF :=
  match fin with
  | .eof => if got.isEmpty then RF.eof else RF.unexpected
  | .err => RF.ioerr

theorem rfEnd_ne_full (fin : Fin) (got : Bytes) : rfEnd fin got ≠ .full := by
  cases fin <;> cases got <;> nofun

theorem readFull_zero (fuel : Nat) (s : Src) (acc : Bytes) : readFull fuel 0 s acc = ((acc, .full), s) := by
  cases fuel <;> rfl

/-- `io.ReadFull` over any fragmentation: the first `n` bytes of the stream if there are that
    many, else all of them with the end-of-stream class; the rest of the stream is what follows.
    Every `Read` delivers at least one octet, so one call more than there are octets is enough. -/
theorem readFull_spec (fuel n : Nat) (s : Src) (acc : Bytes) (hw : s.wf) (hf : s.bytes.length + 1 ≤ fuel) :
    ∃ s', readFull fuel n s acc =
        (if n ≤ s.bytes.length then ((acc ++ s.bytes.take n, RF.full), s')
         else ((acc ++ s.bytes, rfEnd s.fin (acc ++ s.bytes)), s')) ∧
      s'.wf ∧ s'.fin = s.fin ∧ s'.bytes = s.bytes.drop n := by
  fun_induction readFull fuel n s acc
  next fuel s acc => exact ⟨s, by simp, hw, rfl, rfl⟩
  next => omega -- no fuel: `hf` excludes it
  next fuel n s acc s1 hr => -- the transport is exhausted
    obtain ⟨rfl, hb⟩ := Src.read_none hr
    exact ⟨s1, by rw [hb, List.append_nil]; rfl, hw, rfl, by rw [hb]; rfl⟩
  next fuel n s acc got s1 hr ih => -- a piece `got`, then `ReadFull` of the remaining `n + 1 - got.length` octets
    obtain ⟨hw1, hf1, hb, hpos, hle⟩ := Src.read_some hw (Nat.succ_pos n) hr
    obtain ⟨s', h', hw', hf', hb'⟩ := ih hw1 (by rw [hb, List.length_append] at hf; omega)
    refine ⟨s', ?_, hw', hf'.trans hf1, by
      rw [hb', hb, List.drop_append, List.drop_of_length_le hle, List.nil_append]⟩
    rw [h', hb, hf1, List.take_append, List.take_of_length_le hle, List.length_append, List.append_assoc,
      List.append_assoc]
    simp only [Nat.sub_le_iff_le_add']

/-- `ReadMessage` depends on the transport only through its bytes and the way it ends:
    outcome and bytes consumed are those of the reference step, and what is left of the
    transport is the stream after the consumed bytes. -/
theorem readMessage_spec (d : DictFn) (s : Src) (hw : s.wf) :
    ∃ s', readMessage d s = ((splitStep d s.bytes s.fin).1, (splitStep d s.bytes s.fin).2, s') ∧
      s'.wf ∧ s'.fin = s.fin ∧ s'.bytes = s.bytes.drop (splitStep d s.bytes s.fin).2 := by
  obtain ⟨s1, h1, hw1, hf1, hb1⟩ := readFull_spec (s.bytes.length + 1) 20 s [] hw (Nat.le_refl _)
  rw [readMessage, sum_eq_bytes, h1, List.nil_append, List.nil_append]
  by_cases h20 : 20 ≤ s.bytes.length
  · obtain ⟨h, hh⟩ := decodeHeader_take h20
    rw [if_pos h20, splitStep_header d _ hh]
    dsimp only
    rw [hh]
    dsimp only
    cases d.cmdRules h.app h.cmd with
    | none => exact ⟨s1, rfl, hw1, hf1, hb1⟩
    | some r =>
      dsimp only
      by_cases hl : h.len < 20
      · rw [if_pos hl, if_pos hl]; exact ⟨s1, rfl, hw1, hf1, hb1⟩
      obtain ⟨s2, h2, hw2, hf2, hb2⟩ := readFull_spec (s.bytes.length + 1) (h.len - 20) s1 [] hw1
        (by rw [hb1, List.length_drop]; omega)
      rw [if_neg hl, if_neg hl, h2, hb1, List.length_drop, List.nil_append, List.nil_append]
      rw [hb1, List.drop_drop] at hb2
      by_cases hb : s.bytes.length < h.len
      · rw [if_neg (by omega), if_pos hb]
        refine ⟨s2, ?_, hw2, hf2.trans hf1, by
          rw [hb2, List.drop_of_length_le (by omega), List.drop_of_length_le (Nat.le_refl _)]⟩
        cases hr : rfEnd s1.fin (s.bytes.drop 20) with
        | full => exact absurd hr (rfEnd_ne_full _ _)
        | _ => dsimp only; rw [List.length_drop, Nat.add_sub_cancel' h20]
      · rw [if_pos (by omega), if_neg hb]
        exact ⟨s2, rfl, hw2, hf2.trans hf1, by rw [hb2, Nat.add_sub_cancel' (Nat.le_of_not_lt hl)]⟩
  · rw [if_neg h20]
    by_cases hb : s.bytes = []
    · rw [hb] at hb1 ⊢
      exact ⟨s1, by cases s.fin <;> rfl, hw1, hf1, hb1⟩
    · rw [splitStep_short d _ _ hb (Nat.lt_of_not_le h20)]
      refine ⟨s1, ?_, hw1, hf1, by rw [hb1, List.drop_of_length_le (by omega), List.drop_length]⟩
      cases s.fin <;> simp [rfEnd, hb]

/-- C05, core: reading messages one after another from ANY fragmentation of a byte stream gives
    the outcomes, and consumes the bytes, of the length-only reference split. -/
theorem readAll_split (d : DictFn) : ∀ (fuel : Nat) (s : Src), s.wf →
    readAll d fuel s = split d fuel s.bytes s.fin
  | 0, s, _ => rfl
  | fuel+1, s, hw => by
    obtain ⟨s', hrm, hw', hfin', hb'⟩ := readMessage_spec d s hw
    rw [readAll, split, hrm]
    cases hst : splitStep d s.bytes s.fin with
    | mk res n =>
      rw [hst] at hb'
      cases res with
      | msg m =>
        dsimp only
        rw [readAll_split d fuel s' hw', hb', hfin']
      | _ => rfl

end DV
