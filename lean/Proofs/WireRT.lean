import Proofs.Frame
import Spec.Wire
/-!
  Wire direction of C01: a well-formed container that is not one of the three ambiguous Address
  shapes is read, and what is read serialises to exactly the bytes that were read.
-/
namespace DV
open DV.Spec

theorem take_split {α : Type} {l : List α} {n m : Nat} (h : n ≤ m) :
    l.take m = l.take n ++ (l.take m).drop n := by
  have := (List.take_append_drop n (l.take m)).symm
  rw [List.take_take, Nat.min_eq_left h] at this
  exact this

theorem all_zero_eq {l : Bytes} (h : l.all (· == 0) = true) : l = zeros l.length :=
  List.eq_replicate_iff.mpr ⟨rfl, fun b hb => beq_iff_eq.mp (List.all_eq_true.mp h b hb)⟩

theorem hdrBytes_view {data : Bytes} (h : hdrOk data) :
    hdrBytes (avpCode data) (avpFlags data) (avpLen data) (avpVendor data) =
      data.take (hdrLen (avpFlags data)) := by
  obtain ⟨h8, hl, hd⟩ := h
  have e4 : be 4 (rd (data.take 4)) = data.take 4 := be_rd_take data 0 4 (by omega)
  have e1 : [UInt8.ofNat (avpFlags data)] = (data.drop 4).take 1 := by
    rw [take1_drop data 4 (by omega), avpFlags, UInt8.ofNat_toNat]
  rw [hdrBytes, avpCode, avpLen, e4, be_rd_take data 5 3 (by omega), e1, avpVendor]
  unfold hdrLen at hl ⊢
  by_cases hv : hasV (avpFlags data) = true
  · rw [if_pos hv] at hl
    rw [if_pos hv, if_pos hv, if_pos hv, be_rd_take data 8 4 (by omega)]
    show _ = data.take (4 + 1 + 3 + 4)
    simp only [List.take_add]
  · rw [if_neg hv, if_neg hv, List.append_nil]
    show _ = data.take (4 + 1 + 3)
    simp only [List.take_add]

/-- an AVP image cut into header, payload and what lies between Length and a later offset -/
theorem avp_split {data : Bytes} (h : hdrOk data) {padded : Nat} (hLp : avpLen data ≤ padded) :
    data.take padded =
      hdrBytes (avpCode data) (avpFlags data) (avpLen data) (avpVendor data) ++ payloadOf data
        ++ (data.take padded).drop (avpLen data) := by
  rw [hdrBytes_view h, payloadOf, ← take_split h.hdr_le_len, ← take_split hLp]

/-- reassembly: an AVP image is its header fields, its payload and its padding -/
theorem avp_image (data : Bytes) (L padded : Nat) (f : Nat) (hf : f = (data.getD 4 0).toNat)
    (hL : L = rd ((data.drop 5).take 3)) (h8 : 8 ≤ data.length) (hhl : hdrLen f ≤ L)
    (hLp : L ≤ padded) (hpd : padded ≤ data.length) :
    data.take padded =
      be 4 (rd (data.take 4)) ++ [UInt8.ofNat f] ++ be 3 L
        ++ (if hasV f then be 4 (rd ((data.drop 8).take 4)) else [])
        ++ (data.take L).drop (hdrLen f) ++ (data.take padded).drop L := by
  subst hf hL
  refine (avp_split ⟨h8, hhl, Nat.le_trans hLp hpd⟩ hLp).trans ?_
  unfold hdrBytes avpVendor avpCode avpFlags avpLen payloadOf
  split <;> rfl

/-- what `wfPadding` asks of the AVP at the head of `data` -/
def padOne (g : Nat → Nat → Bool) (fuel : Nat) (data : Bytes) : Prop :=
  roundUp4 (avpLen data) ≤ data.length ∧
    ((data.take (roundUp4 (avpLen data))).drop (avpLen data)).all (· == 0) = true ∧
    (if g (avpCode data) (avpVendor data) then wfPadding g fuel (payloadOf data) else true) = true

theorem wfPadding_zero (g : Nat → Nat → Bool) (bs : Bytes) : wfPadding g 0 bs = bs.isEmpty := by
  rw [wfPadding]

theorem wfPadding_succ (g : Nat → Nat → Bool) (fuel : Nat) {bs : Bytes} (hne : ¬ bs.isEmpty = true) :
    wfPadding g (fuel+1) bs = true ↔
      padOne g fuel bs ∧ wfPadding g fuel (bs.drop (roundUp4 (avpLen bs))) = true := by
  have hf := avpFlags_lt bs
  unfold padOne payloadOf avpVendor avpCode hdrLen
  unfold avpLen avpFlags at *
  rw [wfPadding, if_neg hne]
  generalize (bs.getD 4 0).toNat = f at *
  simp only [ite_vbit hf, and_assoc, decide_eq_true_eq]

/-- a container whose padding is in place has a length that is a multiple of four -/
theorem wfPadding_mod4 (g : Nat → Nat → Bool) : ∀ (fuel : Nat) (bs : Bytes),
    wfPadding g fuel bs = true → bs.length % 4 = 0
  | 0, bs, h => by
    rw [wfPadding_zero, List.isEmpty_iff] at h
    rw [h]; rfl
  | fuel+1, bs, h => by
    by_cases he : bs.isEmpty = true
    · rw [List.isEmpty_iff.mp he]; rfl
    obtain ⟨⟨h1, -, -⟩, h4⟩ := (wfPadding_succ g fuel he).mp h
    have ih := wfPadding_mod4 g fuel _ h4
    rw [List.length_drop] at ih
    have : roundUp4 (avpLen bs) % 4 = 0 := Nat.mul_mod_left _ 4
    omega

/-- the image of an AVP whose value serialises to the payload that was read, reports that
    payload's length and asks for the padding up to the next multiple of four -/
theorem enc_of_view {data : Bytes} (hk : hdrOk data) (hpd : roundUp4 (avpLen data) ≤ data.length)
    (hz : ((data.take (roundUp4 (avpLen data))).drop (avpLen data)).all (· == 0) = true)
    {d : Val} (hs : d.ser = payloadOf data) (hl : d.len = (payloadOf data).length)
    (hp : d.padding = pad4 d.len - d.len) :
    let a := AVP.mk (avpCode data) (avpFlags data) (avpLen data) (avpVendor data) d
    a.enc = data.take (roundUp4 (avpLen data)) ∧ a.len = roundUp4 (avpLen data) := by
  have hLp : avpLen data ≤ roundUp4 (avpLen data) := by unfold roundUp4; omega
  have hL : hdrLen (avpFlags data) + d.len = avpLen data := by
    rw [hl, payloadOf_length hk]; exact Nat.add_sub_cancel' hk.hdr_le_len
  have hpad : d.padding = roundUp4 (avpLen data) - avpLen data := by
    rw [hp, ← pad4_eq_roundUp4, ← hL, pad4_sub_add_hdr (hdrLen_mod4 _)]
  have hz := all_zero_eq hz
  rw [List.length_drop, List.length_take, Nat.min_eq_left hpd, ← hpad] at hz
  constructor
  · rw [AVP.enc_hdr, hL, hs, ← hz, ← List.append_assoc]
    exact (avp_split hk hLp).symm
  · rw [AVP.len_eq, hL, hpad]; omega

theorem wire_rt_empty {ty : Nat → Nat → Nat} {bs : Bytes} {as : List AVP} (he : bs.isEmpty = true)
    (ht : typedL ty [] = .ok as) : encL as = bs ∧ lenL as = bs.length := by
  cases List.isEmpty_iff.mp he
  cases ht
  exact ⟨rfl, rfl⟩

/-- C01, wire direction, core: for every typing, every fuel and every container, if the
    Length-only walk succeeds, padding is in place and zero, and every leaf payload is a
    well-formed, unambiguous value of its type, then what the decoder returns serialises to the
    container's bytes and reports their number. `F2` is the fuel of the padding walk, kept apart from the
    frame walk's: `frames` spends two units per nesting level, `wfPadding` one. -/
theorem wire_rt (ty : Nat → Nat → Nat) : ∀ fuel : Nat,
    (∀ (F2 : Nat) (data : Bytes) (f : Frame) (a : AVP),
      frameOne (isG ty) fuel data = .ok f → padOne (isG ty) F2 data →
      typed ty f = .ok a → wfFrameX ty f = true →
      a.enc = data.take (roundUp4 (avpLen data)) ∧ a.len = roundUp4 (avpLen data)) ∧
    (∀ (F2 : Nat) (bs : Bytes) (fs : List Frame) (as : List AVP),
      frames (isG ty) fuel bs = .ok fs → wfPadding (isG ty) F2 bs = true →
      typedL ty fs = .ok as → wfFramesX ty fs = true →
      encL as = bs ∧ lenL as = bs.length)
  | 0 => by
    refine ⟨fun F2 data f a h => (by rw [frameOne_zero] at h; cases h), fun F2 bs fs as h _ ht _ => ?_⟩
    rw [frames_zero] at h
    split at h
    next he => cases h; exact wire_rt_empty he ht
    next => cases h
  | fuel+1 => by
    have ih := wire_rt ty fuel
    refine ⟨fun F2 data f a hfr hpad hty hwf => ?_, fun F2 bs fs as hfr hpad hty hwf => ?_⟩
    · have hk := hdrOk_of_frameOne_ok hfr
      rw [frameOne_of_hdrOk _ fuel hk] at hfr
      obtain ⟨hpd, hzero, hinner⟩ := hpad
      by_cases hg : isG ty (avpCode data) (avpVendor data) = true
      · -- grouped: the payload is a container of its own
        rw [if_pos hg] at hfr hinner
        obtain ⟨kids, hkids, rfl⟩ := Res.mapR_eq_ok.mp hfr
        rw [typed_group] at hty
        obtain ⟨kas, hkas, rfl⟩ := Res.mapR_eq_ok.mp hty
        rw [wfFrameX] at hwf
        obtain ⟨he, hl⟩ := ih.2 F2 _ kids kas hkids hinner hkas hwf
        have hm4 := wfPadding_mod4 _ _ _ hinner
        exact enc_of_view hk hpd hzero (d := .group kas) (by rw [Val.ser, he]) (by rw [Val.len, hl])
          (pad4_sub_of_mod (by rw [Val.len, hl]; exact hm4)).symm
      · -- leaf
        rw [if_neg hg] at hfr
        cases hfr
        rw [typed_leaf] at hty
        obtain ⟨d, hd, rfl⟩ := Res.mapR_eq_ok.mp hty
        rw [wfFrameX] at hwf
        obtain ⟨hs, hl, hp⟩ := leaf_wire_rt _ _ d hwf hd
        exact enc_of_view hk hpd hzero hs hl (by rw [hp, hl])
    · rw [frames_succ] at hfr
      split at hfr
      · rename_i he; cases hfr; exact wire_rt_empty he hty
      rename_i he
      obtain ⟨f, fr, hf, hfrs, rfl⟩ := Res.bindR_mapR_eq_ok.mp hfr
      obtain ⟨a, ar, hta, htr, rfl⟩ := Res.bindR_mapR_eq_ok.mp (typedL_cons ty f fr ▸ hty)
      rw [wfFramesX, Bool.and_eq_true] at hwf
      cases F2 with
      | zero => rw [wfPadding_zero] at hpad; exact absurd hpad he
      | succ F2 =>
        obtain ⟨hone, hp4⟩ := (wfPadding_succ _ F2 he).mp hpad
        obtain ⟨ea, la⟩ := ih.1 F2 bs f a hf hone hta hwf.1
        obtain ⟨er, lr⟩ := ih.2 F2 _ fr ar hfrs hp4 htr hwf.2
        rw [encL, lenL, ea, er, la, lr, List.take_append_drop, List.length_drop]
        exact ⟨rfl, by have := hone.1; omega⟩

mutual
theorem typed_total (ty : Nat → Nat → Nat) : ∀ f : Frame, wfFrame ty f = true → ∃ a, typed ty f = .ok a
  | .leaf c fl l v p, h => by
    rw [wfFrame] at h
    obtain ⟨d, hd⟩ := leaf_wf_decodes _ _ h
    exact ⟨_, by rw [typed_leaf, hd]; rfl⟩
  | .group c fl l v kids, h => by
    rw [wfFrame] at h
    obtain ⟨as, ha⟩ := typedL_total ty kids h
    exact ⟨_, by rw [typed_group, ha]; rfl⟩
theorem typedL_total (ty : Nat → Nat → Nat) : ∀ fs : List Frame, wfFrames ty fs = true → ∃ as, typedL ty fs = .ok as
  | [], _ => ⟨[], typedL_nil ty⟩
  | f :: r, h => by
    rw [wfFrames, Bool.and_eq_true] at h
    obtain ⟨a, ha⟩ := typed_total ty f h.1
    obtain ⟨as, has⟩ := typedL_total ty r h.2
    exact ⟨a :: as, by rw [typedL_cons, ha, Res.bindR, has]; rfl⟩
end

mutual
theorem wfFrameX_wfFrame (ty : Nat → Nat → Nat) : ∀ f : Frame, wfFrameX ty f = true → wfFrame ty f = true
  | .leaf c fl l v p, h => by
    rw [wfFrameX, wfPayloadX, Bool.and_eq_true] at h
    rw [wfFrame]
    exact h.1
  | .group c fl l v kids, h => by
    rw [wfFrameX] at h
    rw [wfFrame]
    exact wfFramesX_wfFrames ty kids h
theorem wfFramesX_wfFrames (ty : Nat → Nat → Nat) : ∀ fs : List Frame, wfFramesX ty fs = true → wfFrames ty fs = true
  | [], _ => by rw [wfFrames]
  | f :: r, h => by
    rw [wfFramesX, Bool.and_eq_true] at h
    rw [wfFrames, Bool.and_eq_true]
    exact ⟨wfFrameX_wfFrame ty f h.1, wfFramesX_wfFrames ty r h.2⟩
end

theorem wfBody_iff {ty : Nat → Nat → Nat} {bs : Bytes} : wfBody ty bs = true ↔
    ∃ fs, frames (isG ty) (bs.length + 1) bs = .ok fs ∧ wfFrames ty fs = true ∧
      wfPadding (isG ty) (bs.length + 1) bs = true := by
  show (match frames (isG ty) (bs.length + 1) bs with
    | .ok fs => wfFrames ty fs && wfPadding (isG ty) (bs.length + 1) bs | _ => false) = true ↔ _
  cases frames (isG ty) (bs.length + 1) bs <;> simp

theorem wfBodyX_iff {ty : Nat → Nat → Nat} {bs : Bytes} : wfBodyX ty bs = true ↔
    ∃ fs, frames (isG ty) (bs.length + 1) bs = .ok fs ∧ wfFramesX ty fs = true ∧
      wfPadding (isG ty) (bs.length + 1) bs = true := by
  show (match frames (isG ty) (bs.length + 1) bs with
    | .ok fs => wfFramesX ty fs && wfPadding (isG ty) (bs.length + 1) bs | _ => false) = true ↔ _
  cases frames (isG ty) (bs.length + 1) bs <;> simp

theorem cmdHasRules_iff {d : DictFn} {app cmd flags : Nat} : cmdHasRules d app cmd flags = true ↔
    ∃ r, d.cmdRules app cmd = some r ∧ (if isRequest flags then r.1 else r.2) ≠ 0 := by
  unfold cmdHasRules
  cases d.cmdRules app cmd <;> simp

theorem wfBodyX_wfBody {ty : Nat → Nat → Nat} {bs : Bytes} (h : wfBodyX ty bs = true) : wfBody ty bs = true :=
  let ⟨fs, hf, hw, hp⟩ := wfBodyX_iff.mp h
  wfBody_iff.mpr ⟨fs, hf, wfFramesX_wfFrames ty fs hw, hp⟩

end DV
