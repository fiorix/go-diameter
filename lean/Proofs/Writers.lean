import Model.Writers
import Proofs.Run
/-!
  The writers LTS (`Model.Writers`, C07 B): the wire is the log of whole messages plus what the
  lock holder has written of its current one. Every event rewrites one writer: `WInv.update`.
-/
namespace DV

/-- the message a writer is busy with, if any -/
def cur : WPc → List Bytes
  | .idle => []
  | .waiting m => [m]
  | .holding m _ => [m]

/-- what the lock holder has put on the wire of its current message -/
def holderPrefix (s : WSys) : Bytes :=
  match s.lock with
  | none => []
  | some i => match (s.writers i).pc with
    | .holding m rest => m.take (m.length - rest.length)
    | _ => []

structure WInv (prog : Nat → List Bytes) (s : WSys) : Prop where
  wire : s.wire = (s.done.map Prod.snd).flatten ++ holderPrefix s
  excl : ∀ i m rest, (s.writers i).pc = .holding m rest → s.lock = some i
  held : ∀ i, s.lock = some i → ∃ m rest, (s.writers i).pc = .holding m rest
  suffix : ∀ i m rest, (s.writers i).pc = .holding m rest → ∃ pre, m = pre ++ rest
  order : ∀ i, ((s.done.filter (fun p => p.1 = i)).map Prod.snd) ++ cur (s.writers i).pc ++ (s.writers i).queue = prog i

theorem WInv_init (prog : Nat → List Bytes) : WInv prog (WSys.init prog) :=
  ⟨rfl, nofun, nofun, nofun, fun _ => rfl⟩

theorem setW_same {ws : Nat → Writer} {i : Nat} {w : Writer} : setW ws i w i = w := if_pos rfl
theorem setW_other {ws : Nat → Writer} {i j : Nat} {w : Writer} (h : j ≠ i) : setW ws i w j = ws j := if_neg h

theorem holderPrefix_none {s : WSys} (h : s.lock = none) : holderPrefix s = [] := by
  rw [holderPrefix, h]

theorem holderPrefix_holding {ws : Nat → Writer} {lock : Option Nat} {wire : Bytes} {done : List (Nat × Bytes)}
    {i : Nat} {m pre rest : Bytes} (hl : lock = some i) (hw : (ws i).pc = .holding m rest) (hm : m = pre ++ rest) :
    holderPrefix ⟨ws, lock, wire, done⟩ = pre := by
  subst hl hm
  simp only [holderPrefix, hw, List.length_append, Nat.add_sub_cancel]
  exact List.take_left' rfl

/-- rewriting a writer that does not hold the lock leaves the prefix as it is -/
theorem holderPrefix_setW {s : WSys} {i : Nat} (hl : s.lock ≠ some i) (w : Writer) (wire : Bytes)
    (done : List (Nat × Bytes)) : holderPrefix ⟨setW s.writers i w, s.lock, wire, done⟩ = holderPrefix s := by
  unfold holderPrefix
  cases h : s.lock with
  | none => rfl
  | some j => dsimp only; rw [setW_other fun hj => hl (h.trans (congrArg _ hj))]

/-- Every event rewrites one writer `i`. What the invariant says of another writer `j` depends on the
    lock and the log only through `lock = some j` and the log's entries of `j`; of `i` itself it says `hpc`
    (a holder has the lock and has a suffix of its message left, anyone else does not have the lock) and `horder`. -/
theorem WInv.update {prog : Nat → List Bytes} {s : WSys} (hi : WInv prog s) {i : Nat} {w : Writer}
    {lock : Option Nat} {wire : Bytes} {done : List (Nat × Bytes)}
    (hlock : ∀ j, j ≠ i → (lock = some j ↔ s.lock = some j))
    (hdone : ∀ j, j ≠ i → done.filter (fun p => p.1 = j) = s.done.filter (fun p => p.1 = j))
    (hwire : wire = (done.map Prod.snd).flatten ++ holderPrefix ⟨setW s.writers i w, lock, wire, done⟩)
    (hpc : match w.pc with
      | .holding m rest => lock = some i ∧ ∃ pre, m = pre ++ rest
      | _ => lock ≠ some i)
    (horder : (done.filter (fun p => p.1 = i)).map Prod.snd ++ cur w.pc ++ w.queue = prog i) :
    WInv prog ⟨setW s.writers i w, lock, wire, done⟩ where
  wire := hwire
  excl j m rest h := by
    dsimp only at h
    by_cases hj : j = i
    · subst hj; rw [setW_same] at h; rw [h] at hpc; exact hpc.1
    · rw [setW_other hj] at h; exact (hlock j hj).2 (hi.excl j m rest h)
  held j hl := by
    dsimp only at hl ⊢
    by_cases hj : j = i
    · subst hj; rw [setW_same]
      revert hpc
      cases w.pc with
      | holding m rest => exact fun _ => ⟨m, rest, rfl⟩
      | _ => exact fun h => absurd hl h
    · rw [setW_other hj]; exact hi.held j ((hlock j hj).1 hl)
  suffix j m rest h := by
    dsimp only at h
    by_cases hj : j = i
    · subst hj; rw [setW_same] at h; rw [h] at hpc; exact hpc.2
    · rw [setW_other hj] at h; exact hi.suffix j m rest h
  order j := by
    dsimp only
    by_cases hj : j = i
    · subst hj; rw [setW_same]; exact horder
    · rw [setW_other hj, hdone j hj]; exact hi.order j

theorem WInv_step (prog : Nat → List Bytes) (s s' : WSys) (e : WEv) (hi : WInv prog s)
    (hs : s.step e = some s') : WInv prog s' := by
  revert hs
  fun_cases WSys.step s e <;> rintro ⟨⟩
  next i m q hw =>
    -- `start i`: `i` is idle, so it is not the holder, whose prefix stays
    have ho := hw ▸ hi.order i
    have hnl : s.lock ≠ some i := fun hl => by
      obtain ⟨_, _, h⟩ := hi.held i hl; rw [hw] at h; cases h
    refine hi.update (fun _ _ => .rfl) (fun _ _ => rfl) ?_ hnl ?_
    · rw [holderPrefix_setW hnl]; exact hi.wire
    · rw [List.append_assoc] at ho ⊢; exact ho
  next i q m hw hl =>
    -- `acquire i`: the lock was free and `i` has sent nothing yet: the prefix is empty before and after
    refine hi.update (fun j hj => by simp [hl, Ne.symm hj]) (fun _ _ => rfl) ?_ ⟨rfl, [], rfl⟩ (hw ▸ hi.order i :)
    rw [hi.wire, holderPrefix_none hl, holderPrefix_holding (pre := []) rfl (congrArg _ setW_same) rfl]
  next i k j q m rest hw hl hc =>
    -- `xfer i k`: the wire and the holder's prefix grow by the same `rest.take k`
    obtain ⟨rfl, -, -⟩ := hc
    have hpc : (s.writers j).pc = .holding m rest := congrArg Writer.pc hw
    obtain ⟨pre, hm⟩ := hi.suffix j m rest hpc
    have hm' : m = (pre ++ rest.take k) ++ rest.drop k := by rw [List.append_assoc, List.take_append_drop, hm]
    refine hi.update (fun _ _ => .rfl) (fun _ _ => rfl) ?_ ⟨hl, _, hm'⟩ (hw ▸ hi.order j :)
    rw [holderPrefix_holding hl (congrArg _ setW_same) hm', ← List.append_assoc,
      ← holderPrefix_holding hl hpc hm, ← hi.wire]
  next j q m hl hw =>
    -- `release j`: nothing is left to send, the prefix is the whole of `m`, which moves to the log
    refine hi.update (fun k hk => by simp [hl, Ne.symm hk]) (fun k hk => by simp [Ne.symm hk]) ?_ nofun ?_
    · rw [hi.wire, holderPrefix_holding hl (congrArg Writer.pc hw) (List.append_nil m).symm, holderPrefix_none rfl]
      simp
    · rw [← hi.order j, hw]; simp [cur]

theorem WInv_run (prog : Nat → List Bytes) : ∀ (es : List WEv) (s s' : WSys), WInv prog s →
    s.run es = some s' → WInv prog s' :=
  run_invariant (fun _ => rfl) (fun s e _ => by rw [WSys.run]; cases s.step e <;> rfl) (WInv_step prog _ _ _)

theorem WInv_reachable {prog : Nat → List Bytes} {es : List WEv} {s : WSys}
    (h : (WSys.init prog).run es = some s) : WInv prog s :=
  WInv_run prog es _ s (WInv_init prog) h

end DV
