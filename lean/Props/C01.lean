import Model
import Spec
import Gen
import Proofs.RoundTrip
import Proofs.Split
import Proofs.WireRT
import Proofs.ApiMsg
/-!
  C01 — messages survive a wire round trip in both directions.
  API direction: proved at full strength (`C01_api_*`), for every dictionary, every header,
  every canonical tree of every data type, any nesting, any size below 2^24.
  Wire direction: the full statement is FALSE of the code for three Address shapes (theorems
  `C01_wire_counterexample_*`; replayed on the implementation and recorded as known findings);
  the statement stays visible as `C01_wire_Statement`.
-/
namespace DV.Props.C01
open DV DV.Spec

/-- API direction, AVP level. For every typing `ty`, every tree `as` of canonical values whose
    types are those `ty` assigns (`typedOkL`), of total size below 2^24: decoding the encoded
    bytes returns the same ordered tree - code, flags, vendor id, typed value, nesting - with
    every Length field filled in (`wireL`). -/
theorem C01_api_avps (ty : Nat → Nat → Nat) (as : List AVP)
    (hc : canonL as = true) (ht : typedOkL ty as = true) (hsz : lenL as < 16777216) :
    decodeAVPs ty ((encL as).length + 1) (encL as) = .ok (wireL as) :=
  api_avps_rt ty as hc ht hsz

/-- ... and serialising what was read yields identical bytes. -/
theorem C01_api_reserialise (as : List AVP) : encL (wireL as) = encL as := (encL_wire as).1

/-- the tree read back differs from the one written in nothing but the Length fields, and
    reading it again changes nothing -/
theorem C01_api_same_tree (as : List AVP) : wireL (wireL as) = wireL as := wireL_idem as

/-- API direction, message level (`ReadMessage (Serialize m)`): any flag byte, any command the
    dictionary defines with rules for that R bit, any application / hop-by-hop / end-to-end id. -/
theorem C01_api_msg (d : DictFn) (m : Msg) (nreq nans : Nat)
    (hv : m.hdr.version < 256) (hf : m.hdr.flags < 256) (hcmd : m.hdr.cmd < 16777216)
    (happ : m.hdr.app < 4294967296) (hh : m.hdr.hbh < 4294967296) (he : m.hdr.e2e < 4294967296)
    (hlen : m.hdr.len = m.len) (hsz : m.len < 16777216)
    (hcmdr : d.cmdRules m.hdr.app m.hdr.cmd = some (nreq, nans))
    (hrules : (if isRequest m.hdr.flags then nreq else nans) ≠ 0)
    (hc : canonL m.avps = true) (ht : typedOkL (d.avpType m.hdr.app) m.avps = true) :
    decodeMsg d m.enc = .ok { hdr := m.hdr, avps := wireL m.avps } :=
  api_msg_rt d m nreq nans hv hf hcmd happ hh he hlen hsz hcmdr hrules hc ht

/-- The full wire-direction statement: every well-formed body that is read re-serialises to
    exactly its bytes. -/
def C01_wire_Statement : Prop :=
  ∀ (ty : Nat → Nat → Nat) (bs : Bytes) (as : List AVP),
    wfBody ty bs = true → decodeAVPs ty (bs.length + 1) bs = .ok as → encL as = bs

mutual
theorem valbeq_eq : ∀ x y : Val, x.beq y = true → x = y
  | x, y, h => by
    cases x <;> cases y <;> simp only [Val.beq, Bool.and_eq_true, beq_iff_eq, Bool.false_eq_true] at h
    case group.group as as' => rw [beqL_eq as as' h]
    all_goals simp only [h]
theorem avpbeq_eq : ∀ x y : AVP, x.beq y = true → x = y
  | .mk c f l v d, .mk c' f' l' v' d', h => by
    simp only [AVP.beq, Bool.and_eq_true, beq_iff_eq] at h
    obtain ⟨⟨⟨⟨h1, h2⟩, h3⟩, h4⟩, h5⟩ := h
    rw [h1, h2, h3, h4, valbeq_eq d d' h5]
theorem beqL_eq : ∀ x y : List AVP, beqL x y = true → x = y
  | [], [], _ => rfl
  | a :: r, a' :: r', h => by
    simp only [beqL, Bool.and_eq_true] at h
    rw [avpbeq_eq a a' h.1, beqL_eq r r' h.2]
  | [], _ :: _, h => nomatch h
  | _ :: _, [], h => nomatch h
end

theorem okIs_eq (r : Res (List AVP)) (as : List AVP) (h : okIs r as = true) : r = .ok as := by
  cases r with
  | ok x => rw [beqL_eq x as h]
  | err e => cases h
  | panic p => cases h

/-- a typing that calls every code an Address -/
def tyAddr : Nat → Nat → Nat := fun _ _ => T.address

/-- Host-IP-Address, family 2 (IPv6), 16 octets that are an IPv4-mapped address -/
def witV4Mapped : Bytes := [0,0,1,1, 0x40, 0,0,26, 0,2, 0,0,0,0,0,0,0,0,0,0,255,255,10,1,2,3, 0,0]
/-- family 8 (E.164) with 14 octets: 16 octets in all -/
def witOther16 : Bytes := [0,0,1,1, 0x40, 0,0,24, 0,8, 49,50,51,52,53,54,55,56,57,48,49,50,51,52]
/-- family 8 with 2 octets: 4 octets in all -/
def witOther4 : Bytes := [0,0,1,1, 0x40, 0,0,12, 0,8, 49,50]

theorem refute (bs : Bytes) (as : List AVP) (hw : wfBody tyAddr bs = true)
    (hd : okIs (decodeAVPs tyAddr (bs.length + 1) bs) as = true) (hne : encL as ≠ bs) :
    ¬ C01_wire_Statement :=
  fun hS => hne (hS tyAddr bs as hw (okIs_eq _ _ hd))

/-- F1: the wire-direction statement is false: a family-2 Address holding an IPv4-mapped
    address re-serialises as family 1 with 4 octets. -/
theorem C01_wire_counterexample_v4mapped : ¬ C01_wire_Statement :=
  refute witV4Mapped [.mk 257 64 26 0 (.addr [0,0,0,0,0,0,0,0,0,0,255,255,10,1,2,3])]
    (by decide) (by decide) (by decide)

/-- F2: an Address of another family whose payload is 16 octets re-serialises as IPv6. -/
theorem C01_wire_counterexample_other16 : ¬ C01_wire_Statement :=
  refute witOther16 [.mk 257 64 24 0 (.addr [0,8, 49,50,51,52,53,54,55,56,57,48,49,50,51,52])]
    (by decide) (by decide) (by decide)

/-- F3: ... and one whose payload is 4 octets re-serialises as IPv4. -/
theorem C01_wire_counterexample_other4 : ¬ C01_wire_Statement :=
  refute witOther4 [.mk 257 64 12 0 (.addr [0,8,49,50])] (by decide) (by decide) (by decide)

/-- `C01_wire_Statement` restricted to bodies free of the three ambiguous Address shapes
    (`wfBodyX`): for every dictionary typing and every such well-formed body, of any size and
    nesting, what is read serialises to exactly the bytes that were read. Together with the three
    counterexamples this determines the wire direction completely: the statement holds exactly
    outside those shapes. -/
theorem C01_wire_partial (ty : Nat → Nat → Nat) (bs : Bytes) (as : List AVP)
    (hw : wfBodyX ty bs = true) (hd : decodeAVPs ty (bs.length + 1) bs = .ok as) : encL as = bs := by
  obtain ⟨fs, hf, hwf, hpad⟩ := wfBodyX_iff.mp hw
  obtain ⟨fs', hf', ht⟩ := decodeAVPs_eq_ok.mp hd
  cases hf.symm.trans hf'
  exact ((wire_rt ty _).2 _ bs fs as hf hpad ht hwf).1

/-- ... and every well-formed body (ambiguous Address shapes included) is read without error. -/
theorem C01_wire_reads (ty : Nat → Nat → Nat) (bs : Bytes) (hw : wfBody ty bs = true) :
    ∃ as, decodeAVPs ty (bs.length + 1) bs = .ok as := by
  obtain ⟨fs, hf, hwf, -⟩ := wfBody_iff.mp hw
  obtain ⟨as, has⟩ := typedL_total ty fs hwf
  exact ⟨as, decodeAVPs_eq_ok.mpr ⟨fs, hf, has⟩⟩

/-- Message level (`ReadMessage` then `Serialize`): a well-formed wire message without those
    shapes is read, and serialising the result reproduces the message byte for byte. -/
theorem C01_wire_msg (d : DictFn) (bs : Bytes) (hw : wfWireX d bs = true) :
    ∃ m, decodeMsg d bs = .ok m ∧ m.enc = bs := by
  unfold wfWireX at hw
  split at hw; · cases hw
  split at hw
  next h hh =>
    simp only [Bool.and_eq_true, decide_eq_true_eq] at hw
    obtain ⟨⟨hlen, hcmd⟩, hbody⟩ := hw
    obtain ⟨r, hc, hr⟩ := cmdHasRules_iff.mp hcmd
    obtain ⟨as, has⟩ := C01_wire_reads _ _ (wfBodyX_wfBody hbody)
    have hbd : (bs.drop 20).take (h.len - 20) = bs.drop 20 :=
      List.take_of_length_le (by rw [List.length_drop, hlen]; exact Nat.le_refl _)
    refine ⟨{ hdr := h, avps := as }, decodeMsg_eq_ok.mpr ⟨h, hh, by omega, by omega, ?_⟩, ?_⟩
    · rw [hbd]
      exact decodeBody_eq_msg.mpr ⟨r, hc, hr, rfl, has, rfl⟩
    · show h.enc ++ encL as = bs
      rw [header_image _ (by rw [List.length_take]; omega) h hh, C01_wire_partial _ _ as hbody has,
        List.take_append_drop]
  next => cases hw

/-- regenerated facts the codec model hard-codes -/
theorem C01_gen : Gen.HeaderLength = 20 ∧ Gen.Vbit = 128 ∧ Gen.rfc868offset = rfc868 ∧
    Gen.rfc2030offset = rfc2030 ∧ Gen.typeIds.map (·.2) = List.range 19 ∧
    Gen.hdrLayoutEnc = Gen.hdrLayoutDec ∧
    (Gen.available.all (fun p => Gen.decoderKeys.contains p.2)) = true :=
  ⟨rfl, rfl, rfl, rfl, rfl, rfl, rfl⟩

/-- non-vacuity of `C01_api_avps`: every data type, a group in a group, an empty group, an odd
    string, an unknown vendor-specific AVP, an E.164 address, times on both sides of 2036 -/
def demoTy : Nat → Nat → Nat := fun c v =>
  if v ≠ 0 then T.unknown else
  if c = 1 then T.grouped else if c = 2 then T.octets else if c = 3 then T.address else
  if c = 4 then T.time else if c = 5 then T.u64 else if c = 6 then T.ipv6 else T.f32

def demoTree : List AVP :=
  [.mk 1 64 0 0 (.group [.mk 1 0 0 0 (.group []), .mk 2 0 0 0 (.str 12 [1,2,3])]),
   .mk 9 192 0 77 (.str 0 [9]), .mk 3 64 0 0 (.addr [0,8,49,50,51]),
   .mk 4 0 0 0 (.time 2085978495), .mk 4 0 0 0 (.time 2085978496),
   .mk 5 0 0 0 (.fix 17 18446744073709551615), .mk 6 0 0 0 (.ip6 [1,2,3,4,5,6,7,8,9,10,11,12,13,14,15,16]),
   .mk 7 32 0 0 (.fix 5 2143289344)]

example : canonL demoTree = true ∧ typedOkL demoTy demoTree = true ∧ lenL demoTree < 16777216 := by decide

/-- non-vacuity of `C01_wire_partial`: the wire image of that tree (a group in a group, an empty
    group, an odd-length string with padding, a vendor-specific unknown AVP, an E.164 address,
    both time eras, IPv6, a float) is well formed, free of the ambiguous shapes, and is read. -/
example : wfBodyX demoTy (encL demoTree) = true ∧
    (decodeAVPs demoTy ((encL demoTree).length + 1) (encL demoTree)).isOk = true := by decide +kernel

end DV.Props.C01
