import Model
import Spec
import Gen
import Proofs.Cost
import Proofs.SerFits
import Proofs.Split
/-!
  C03 — decoding arbitrary bytes never panics (and what is decoded is bounded by what was
  supplied). The model keeps Go's panicking primitives (`slice`, `sliceFrom`: bounds checks of
  `data[8:12]`, `data[12:]`, `data[8:]`), so "never `panic`" is a statement that every such site
  is guarded on every path - for every dictionary typing and every byte string.
-/
namespace DV.Props.C03
open DV DV.Spec

/-- `DecodeAVP` / `AVP.DecodeFromBytes` (any nesting depth) never panics. -/
theorem C03_avp_nopanic (ty : Nat → Nat → Nat) (fuel : Nat) (data : Bytes) :
    (decodeAVP ty fuel data).isPanic = false := (decode_noPanic ty fuel).1 data

/-- the AVP loop of the message body and of every grouped AVP never panics -/
theorem C03_avps_nopanic (ty : Nat → Nat → Nat) (fuel : Nat) (b : Bytes) :
    (decodeAVPs ty fuel b).isPanic = false := (decode_noPanic ty fuel).2 b

/-- `DecodeHeader` never panics -/
theorem C03_header_nopanic (b : Bytes) : (decodeHeader b).isPanic = false := by
  unfold decodeHeader; split <;> rfl

/-- `ReadMessage` on any byte string, under any dictionary: a message or an error. -/
theorem C03_message_nopanic (d : DictFn) (bs : Bytes) : (decodeMsg d bs).isPanic = false := by
  by_cases h20 : bs.length < 20
  · rw [decodeMsg, if_pos h20]; rfl
  obtain ⟨h, hh⟩ := decodeHeader_take (Nat.le_of_not_lt h20)
  rw [decodeMsg, if_neg h20, hh]
  dsimp only
  cases d.cmdRules h.app h.cmd with
  | none => rfl
  | some r =>
    -- behind the three guards the outcome is that of the AVP loop, its error renamed
    refine Res.isPanic_ite _ _ (Res.isPanic_ite _ _ (Res.isPanic_ite _ _ ?_))
    generalize hr : decodeAVPs _ _ _ = r
    have hp : r.isPanic = false := hr ▸ C03_avps_nopanic ..
    cases r with
    | panic p => cases hp
    | _ => rfl

/-- a declared message length below the 20-byte header is rejected (no body is requested) -/
theorem C03_short_length_rejected (d : DictFn) (bs : Bytes) (h20 : 20 ≤ bs.length)
    (hl : rd ((bs.drop 1).take 3) < 20) : (decodeMsg d bs).isErr = true := by
  cases hm : decodeMsg d bs with
  | err e => rfl
  | panic p => have := C03_message_nopanic d bs; rw [hm] at this; cases this
  | ok m =>
    -- a message would have a header that declares at least 20 octets: the length `hl` speaks of
    obtain ⟨h, hh, h1, -, -⟩ := decodeMsg_eq_ok.mp hm
    rw [decodeHeader, if_neg (by rw [List.length_take]; omega)] at hh
    cases hh
    rw [take_drop_take bs 20 1 3 (by omega)] at h1
    exact absurd h1 (Nat.not_le.mpr hl)

/-- Go dynamic type of a decoded value -/
def dynType : Val → String
  | .str t _ =>
    if t = T.unknown then "datatype.Unknown" else if t = T.ident then "datatype.DiameterIdentity"
    else if t = T.uri then "datatype.DiameterURI" else if t = T.ipfilter then "datatype.IPFilterRule"
    else if t = T.octets then "datatype.OctetString" else if t = T.qos then "datatype.QoSFilterRule"
    else if t = T.utf8 then "datatype.UTF8String" else "datatype.Grouped"
  | .addr _ => "datatype.Address"
  | .ip4 _ => "datatype.IPv4"
  | .ip6 _ => "datatype.IPv6"
  | .fix _ _ => "numeric"
  | .time _ => "datatype.Time"
  | .group _ => "*diam.GroupedAVP"

/-- `Data.Type()` of a decoded value -/
def typeIdOf : Val → Nat
  | .str t _ => t
  | .addr _ => T.address
  | .ip4 _ => T.ipv4
  | .ip6 _ => T.ipv6
  | .fix t _ => t
  | .time _ => T.time
  | .group _ => T.groupedAVP

/-- every assertion `data.(X)` that `dataValueToString` makes for a value whose `Type()` is `t`
    names the value's dynamic type -/
def assertOK (table : List (Nat × String)) (v : Val) : Bool :=
  match table.lookup (typeIdOf v) with
  | some s => s == "" || s == dynType v
  | none => true

/-! The three ways `assertOK` holds. With these a table entry is checked by `rfl` on the lookup, which compares
    string literals; evaluating `s == dynType v` would run `String.decEq`, slow to check. -/

theorem assertOK_none {table : List (Nat × String)} {v : Val} (h : table.lookup (typeIdOf v) = none) :
    assertOK table v = true := by
  rw [assertOK, h]

theorem assertOK_empty {table : List (Nat × String)} {v : Val} (h : table.lookup (typeIdOf v) = some "") :
    assertOK table v = true := by
  rw [assertOK, h]; rfl

theorem assertOK_same {table : List (Nat × String)} {v : Val} (h : table.lookup (typeIdOf v) = some (dynType v)) :
    assertOK table v = true := by
  rw [assertOK, h]; simp only [beq_self_eq_true, Bool.or_true]

/-- For every data type id and every payload, the value the decoder returns satisfies every
    type assertion PrettyDump makes on it - checked against the assertion table regenerated
    from `pretty_dump.go`. (A `*Time` for a wrong-length Time payload would violate it.) -/
theorem C03_pretty_asserts (t : Nat) (p : Bytes) (v : Val) (h : decodeLeaf t p = .ok v) :
    assertOK Gen.prettyAsserts v = true := by
  cases t using T.cases with
  | str ht =>
    rw [decodeLeaf_str ht] at h; cases h
    rcases ht with rfl | rfl | rfl | rfl | rfl | rfl | rfl
    · exact assertOK_none rfl
    all_goals exact assertOK_same rfl
  | addr => rw [decodeLeaf_address_ok h]; exact assertOK_same rfl
  | fix ht =>
    rw [decodeLeaf_fix ht] at h; cases h
    rcases ht with rfl | rfl | rfl | rfl | rfl | rfl | rfl <;> exact assertOK_empty rfl
  | ip4 => cases h; exact assertOK_same rfl
  | ip6 => cases h; exact assertOK_same rfl
  | time => rw [decodeLeaf_time] at h; cases h; exact assertOK_same rfl
  | other ht => rw [decodeLeaf_other ht] at h; cases h

/-- Whatever decodes - well formed or not: wrong-width fixed-size payloads (lenient zero values),
    Address payloads of any family and length, any nesting - every value of the result fills its
    `Len()` exactly when serialised, at every depth. `AVP.SerializeTo` is always handed a window of
    `Len()` octets (`make([]byte, m.Len())`, offsets advancing by `avp.Len()`), and its only
    panic sites are the slice `b[hl+len(payload):]` and the padding loop behind it: neither can
    be reached past the window, and no octet of the window is left unwritten. -/
theorem C03_serialize_fits (ty : Nat → Nat → Nat) (fuel : Nat) (b : Bytes) (as : List AVP)
    (h : decodeAVPs ty fuel b = .ok as) : fitsL as = true ∧ (encL as).length = lenL as :=
  ⟨decode_fits h, fits_encL as (decode_fits h)⟩

/-- ... for a whole message: `Serialize` of a message that was read fills `m.Len()` exactly -/
theorem C03_serialize_message_fits (d : DictFn) (bs : Bytes) (m : Msg) (h : decodeMsg d bs = .ok m) :
    m.enc.length = m.len := by
  obtain ⟨_, _, _, _, hb⟩ := decodeMsg_eq_ok.mp h
  obtain ⟨_, _, _, _, ha, _⟩ := decodeBody_eq_msg.mp hb
  rw [Msg.enc, Msg.len, List.length_append, header_enc_length, fits_encL _ (decode_fits ha)]

/-- regenerated facts: every type the dictionary loader accepts has a decoder; constants -/
theorem C03_gen : Gen.HeaderLength = 20 ∧ Gen.Vbit = 128 ∧
    (Gen.available.all (fun p => Gen.decoderKeys.contains p.2)) = true ∧
    -- every reader type goes through readHeader and readBody, whose first statement rejects a
    -- declared length below the header's (`C03_short_length_rejected`)
    Gen.readMessageCalls = ["readHeader", "readBody"] ∧
    Gen.readBodyGuard = "(m.Header.MessageLength<HeaderLength)" ∧
    -- the pooled read buffer is sliced only if it is as long as the current MessageBufferLength
    Gen.readerBufferSliceCond = "((l<=MessageBufferLength)&&(cap(b)>=MessageBufferLength))" :=
  ⟨rfl, rfl, rfl, rfl, rfl, rfl⟩

/-- Memory reserved for a message body follows the bytes received, not the declared length: with
    large bodies read piecewise (`Gen.bodyChunkLength`, regenerated from `readBodyBytes`), for
    every declared length `l` and every amount `s` actually delivered, at most one piece beyond
    what arrived is reserved (or the pooled 1 KiB buffer). -/
theorem C03_body_bound (l s : Nat) :
    bodyReserved Gen.bodyChunkLength l s ≤ max 1024 (s + Gen.bodyChunkLength) :=
  bodyReserved_chunked Gen.bodyChunkLength l s (by decide)

/-- The model distinguishes: without piecewise reading (the code before the repair) a 20-byte
    header claiming the 24-bit maximum reserves 16 MiB before a single body byte arrives. -/
theorem C03_claimed_length_counterexample : bodyReserved 0 (16777215 - 20) 0 = 16777195 := by
  rw [bodyReserved_unchunked _ _ (by omega)]

/-- KNOWN FINDING, stated formally: nesting depth is bounded only by the input size, and the cost
    of serialising grows with depth x size. The input `nest n` (n grouped AVPs around one
    Result-Code) is 12 + 8n bytes long, decodes to depth n, and `Serialize` - every grouped level
    building its own buffer - writes at least 4n^2 bytes: no linear bound K * |input| holds.
    (String and PrettyDump have the same shape, see the measured costs in the evidence.) -/
theorem C03_nesting_cost_counterexample (n : Nat) :
    (nest n).len = 12 + 8 * n ∧ (nest n).depth = n ∧ 4 * n * n ≤ (nest n).copyCost :=
  ⟨nest_len n, nest_depth n, nest_copyCost n⟩

theorem C03_no_linear_bound (K : Nat) : ∃ a : AVP, K * a.len < a.copyCost := by
  refine ⟨nest (2 * K + 2), Nat.lt_of_lt_of_le ?_ (nest_copyCost _)⟩
  -- at n = 2K + 2: K (12 + 8n) = 16K² + 28K < 16K² + 32K + 16 = 4n²
  rw [nest_len]
  grind

/-- non-vacuity: V flag with Length 8 is an error, not a panic -/
example :
    (decodeAVP (fun _ _ => 0) 2 [0,0,1,8, 0xc0, 0,0,8]).isErr = true := by decide

end DV.Props.C03
