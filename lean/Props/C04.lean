import Model
import Spec
import Gen
import Proofs.Frame
/-!
  C04 — AVP boundaries are taken from the Length fields only.
  `Spec.decodeByFrames` walks a container by each AVP's declared Length rounded up to four,
  consulting nothing but AVP headers (and whether the dictionary calls an AVP grouped, to know
  where to descend), and only then hands each frame's payload bytes to the data-type decoder.
  The theorems say the library's decoder (`decodeAVPs`, used for the message body and for every
  grouped AVP) is exactly that, for every dictionary typing, every byte string, every depth.
-/
namespace DV.Props.C04
open DV DV.Spec

/-- The decoder succeeds exactly when the Length-only walk followed by typing each payload
    succeeds, and then reports the same AVPs: same count, order, codes, flags, vendor ids,
    Length fields, and values decoded from exactly the bytes `[header, Length)` of each AVP. -/
theorem C04_frames (ty : Nat → Nat → Nat) (fuel : Nat) (bs : Bytes) (as : List AVP) :
    decodeAVPs ty fuel bs = .ok as ↔ decodeByFrames ty fuel bs = .ok as := by
  rw [decodeAVPs_eq_ok, ← Res.bindR_eq_ok]; rfl

/-- Whatever the Length-only walk (or the typing of a payload) rejects, the decoder rejects with
    an error - never a panic, never a different AVP list. -/
theorem C04_rejects (ty : Nat → Nat → Nat) (fuel : Nat) (bs : Bytes)
    (h : ∀ as, decodeByFrames ty fuel bs ≠ .ok as) : ∃ e, decodeAVPs ty fuel bs = .err e := by
  have np := (decode_noPanic ty fuel).2 bs
  cases hd : decodeAVPs ty fuel bs with
  | ok as => exact absurd ((C04_frames ty fuel bs as).mp hd) (h as)
  | err e => exact ⟨e, rfl⟩
  | panic p => rw [hd] at np; cases np

/-- A declared Length shorter than the AVP header (8, or 12 with the V flag) or longer than the
    enclosing container is an error, whatever the data type. -/
theorem C04_bad_length (ty : Nat → Nat → Nat) (fuel : Nat) (data : Bytes) (h8 : 8 ≤ data.length)
    (hbad : rd ((data.drop 5).take 3) < hdrLen (data.getD 4 0).toNat ∨ data.length < rd ((data.drop 5).take 3)) :
    ∃ e, decodeAVP ty (fuel+1) data = .err e :=
  decodeAVP_of_not_hdrOk ty fuel fun ⟨_, h1, h2⟩ =>
    hbad.elim (Nat.not_lt.mpr h1) (Nat.not_lt.mpr h2)

/-- the next AVP starts at the declared Length rounded up to four - a statement about the
    cursor, for every decoded AVP list -/
theorem C04_cursor (ty : Nat → Nat → Nat) (fuel : Nat) (b : Bytes) (a : AVP) (r : List AVP)
    (hne : b.isEmpty = false) (h : decodeAVPs ty (fuel+1) b = .ok (a :: r)) :
    decodeAVP ty fuel b = .ok a ∧
    decodeAVPs ty fuel (b.drop (roundUp4 (rd ((b.drop 5).take 3)))) = .ok r := by
  rw [decodeAVPs_succ, hne, if_neg Bool.false_ne_true] at h
  obtain ⟨a', r', ha, hr, h⟩ := Res.bindR_mapR_eq_ok.mp h
  cases h
  rw [decodeAVP_length ty fuel b a ha, pad4_eq_roundUp4] at hr
  exact ⟨ha, hr⟩

/-- regenerated facts the model hard-codes: the V bit, the grouped type ids -/
theorem C04_gen : Gen.Vbit = 128 ∧ (Gen.typeIds.lookup "GroupedType") = some T.grouped ∧
    Gen.avpLayoutDec = [("Code", 0, 4), ("Flags", 4, 5), ("Length", 5, 8), ("VendorID", 8, 12)] :=
  ⟨rfl, rfl, rfl⟩

/-- non-vacuity: an Unsigned32-typed AVP (code 266) with a 16-byte payload whose tail spells an
    Origin-Host AVP is ONE AVP for the walk and for the decoder. -/
example :
    let ty : Nat → Nat → Nat := fun c _ => if c = 266 then T.u32 else T.ident
    let inner : Bytes := [0,0,1,8, 0x40, 0,0,12, 101,118,105,108]
    let bs : Bytes := [0,0,1,10, 0x40, 0,0,24, 0,0,0,0] ++ inner
    okIs (decodeAVPs ty 3 bs) [.mk 266 64 24 0 (.fix T.u32 0)] = true := by
  decide

end DV.Props.C04
