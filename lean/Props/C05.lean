import Model
import Proofs.ReadFull
import Spec
import Gen
import Proofs.Stream
import Proofs.ApiMsg
/-!
  C05 — message boundaries in a byte stream follow the declared message length.
  A transport is the list of non-empty fragments its `Read` calls will return, followed by EOF
  or a read error. `readAll` is the connection's reader loop (successive `ReadMessage` calls,
  each an `io.ReadFull` of the header, then of the declared length minus 20).
-/
namespace DV.Props.C05
open DV DV.Spec

/-- For every dictionary, every byte stream and EVERY fragmentation of it into reads, the
    outcomes of the reader loop - messages, then eof / error / reject - and the number of bytes
    consumed are those of the reference split by declared length. -/
theorem C05_split (d : DictFn) (fuel : Nat) (s : Src) (hw : s.wf) :
    readAll d fuel s = split d fuel s.bytes s.fin := readAll_split d fuel s hw

/-- Hence the same sequence of messages is produced however the transport fragments the bytes
    (every split point, 1-byte reads, anything): two transports with the same bytes and the
    same ending are indistinguishable. A `bufio.Reader` in between is such a re-fragmentation. -/
theorem C05_frag (d : DictFn) (fuel : Nat) (s1 s2 : Src) (h1 : s1.wf) (h2 : s2.wf)
    (hb : s1.bytes = s2.bytes) (hf : s1.fin = s2.fin) :
    readAll d fuel s1 = readAll d fuel s2 := by
  rw [C05_split d fuel s1 h1, C05_split d fuel s2 h2, hb, hf]

/-- One `ReadMessage`: outcome and consumption depend on the bytes only, and the transport is
    left exactly after the consumed bytes (bytes of one message are never attributed to another). -/
theorem C05_one (d : DictFn) (s : Src) (hw : s.wf) :
    ∃ s', readMessage d s = ((splitStep d s.bytes s.fin).1, (splitStep d s.bytes s.fin).2, s') ∧
      s'.wf ∧ s'.fin = s.fin ∧ s'.bytes = s.bytes.drop (splitStep d s.bytes s.fin).2 :=
  readMessage_spec d s hw

/-- a stream ending between messages reports end-of-file, consuming nothing -/
theorem C05_eof (d : DictFn) : splitStep d [] .eof = (MsgRes.eof, 0) := splitStep_nil d .eof

/-- a stream ending inside the header is an error (not end-of-file) -/
theorem C05_in_header (d : DictFn) (bs : Bytes) (fin : Fin) (h0 : 0 < bs.length) (h : bs.length < 20) :
    splitStep d bs fin = (MsgRes.errHeader, bs.length) :=
  splitStep_short d bs fin (List.ne_nil_of_length_pos h0) h

/-- a declared length below the 20-byte header is rejected having consumed exactly the header;
    a stream ending inside the body is an error; otherwise exactly the declared length is consumed -/
theorem C05_by_length (d : DictFn) (bs : Bytes) (fin : Fin) (h : Header) (r : Nat × Nat)
    (h20 : 20 ≤ bs.length) (hh : decodeHeader (bs.take 20) = .ok h) (hc : d.cmdRules h.app h.cmd = some r) :
    (h.len < 20 → splitStep d bs fin = (MsgRes.reject, 20)) ∧
    (20 ≤ h.len → bs.length < h.len → splitStep d bs fin = (MsgRes.errBody, bs.length)) ∧
    (20 ≤ h.len → h.len ≤ bs.length → (splitStep d bs fin).2 = h.len) := by
  simp only [splitStep_header d fin hh, hc]
  exact ⟨fun hl => if_pos hl, fun hl hb => by rw [if_neg (by omega), if_pos hb],
    fun hl hb => by rw [if_neg (by omega), if_neg (by omega)]⟩

/-- `w` is the complete wire image of one message that decodes to `m`: a decodable header that
    declares exactly `w`'s length, a command the dictionary knows, a body that decodes -/
def Whole (d : DictFn) (w : Bytes) (m : Msg) : Prop :=
  20 ≤ w.length ∧ ∃ h r, decodeHeader (w.take 20) = .ok h ∧ d.cmdRules h.app h.cmd = some r ∧
    h.len = w.length ∧ decodeBody d h (w.drop 20) = .msg m

/-- `Whole d w m`: the stream `w` starts with the wire image of `m`, and that is all of `w` -/
theorem whole_iff {d : DictFn} {w : Bytes} {m : Msg} (fin : Fin) :
    Whole d w m ↔ splitStep d w fin = (.msg m, w.length) := by
  rw [splitStep_eq_msg]
  constructor
  · rintro ⟨h20, h, r, hh, hc, hl, hb⟩
    exact ⟨h, hh, by omega, by omega, hl, by rwa [hl, ← List.length_drop, List.take_length]⟩
  · rintro ⟨h, hh, h1, -, hl, hb⟩
    obtain ⟨r, hc, -⟩ := decodeBody_eq_msg.mp hb
    rw [hl, ← List.length_drop, List.take_length] at hb
    exact ⟨by omega, h, r, hh, hc, hl, hb⟩

/-- a complete message at the front of a stream is cut off exactly at its own end, whatever
    follows it -/
theorem splitStep_whole (d : DictFn) (w rest : Bytes) (fin : Fin) (m : Msg) (hw : Whole d w m) :
    splitStep d (w ++ rest) fin = (MsgRes.msg m, w.length) := by
  have := (splitStep_msg_prefix ((whole_iff fin).mp hw)).2.2 rest fin
  rwa [List.take_length] at this

/-- whatever `ReadMessage` decodes from a buffer holding exactly the declared length is `Whole`:
    in particular (C01_api_msg) every message the library serialises -/
theorem whole_of_decodeMsg (d : DictFn) (w : Bytes) (m : Msg)
    (hd : decodeMsg d w = .ok m) (hl : m.hdr.len = w.length) : Whole d w m := by
  obtain ⟨h, hh, h1, h2, hb⟩ := decodeMsg_eq_ok.mp hd
  obtain ⟨-, -, -, rfl, -⟩ := decodeBody_eq_msg.mp hb
  exact (whole_iff .eof).mpr (splitStep_eq_msg.mpr ⟨_, hh, h1, h2, hl, hb⟩)

/-- a concatenation of complete messages is cut into those messages, whatever follows it -/
theorem cut_whole (d : DictFn) : ∀ (wms : List (Bytes × Msg)), (∀ p ∈ wms, Whole d p.1 p.2) →
    Cut d (wms.map Prod.snd) (wms.map Prod.fst).flatten
  | [], _ => Cut_nil d
  | p :: ps, hw =>
    Cut_append (Cut_one fun tail fin => splitStep_whole d p.1 tail fin p.2 (hw p List.mem_cons_self))
      (cut_whole d ps fun q hq => hw q (List.mem_cons_of_mem _ hq))

/-- **No message of a stream is lost, merged with its neighbour or delivered twice.** The
    concatenation of any number of complete messages, followed by the end of the stream, is cut
    into exactly those messages, in order, then end-of-file; every byte is accounted for. With
    `C05_split` this holds for the reader loop over every fragmentation of that stream. -/
theorem C05_concat (d : DictFn) (wms : List (Bytes × Msg)) (hw : ∀ p ∈ wms, Whole d p.1 p.2) :
    split d (wms.length + 1) (wms.map Prod.fst).flatten .eof =
      (wms.map (fun p => MsgRes.msg p.2) ++ [MsgRes.eof], (wms.map Prod.fst).flatten.length) := by
  have h := cut_whole d wms hw [] .eof 1
  rw [List.append_nil, List.length_map, List.map_map] at h
  rw [h]; rfl

/-- the reader loop over any fragmentation of such a stream delivers exactly those messages -/
theorem C05_concat_reads (d : DictFn) (wms : List (Bytes × Msg)) (hw : ∀ p ∈ wms, Whole d p.1 p.2)
    (s : Src) (hs : s.wf) (hb : s.bytes = (wms.map Prod.fst).flatten) (hf : s.fin = .eof) :
    readAll d (wms.length + 1) s =
      (wms.map (fun p => MsgRes.msg p.2) ++ [MsgRes.eof], (wms.map Prod.fst).flatten.length) := by
  rw [C05_split d _ s hs, hb, hf, C05_concat d wms hw]

/-- a message the API can build and the dictionary can type (the hypotheses of `C01_api_msg`) -/
structure Sendable (d : DictFn) (m : Msg) : Prop where
  hv : m.hdr.version < 256
  hf : m.hdr.flags < 256
  hcmd : m.hdr.cmd < 16777216
  happ : m.hdr.app < 4294967296
  hh : m.hdr.hbh < 4294967296
  he : m.hdr.e2e < 4294967296
  hlen : m.hdr.len = m.len
  hsz : m.len < 16777216
  hrules : ∃ nreq nans, d.cmdRules m.hdr.app m.hdr.cmd = some (nreq, nans) ∧
    (if isRequest m.hdr.flags then nreq else nans) ≠ 0
  hc : canonL m.avps = true
  ht : typedOkL (d.avpType m.hdr.app) m.avps = true

/-- the wire image of a sendable message is `Whole` (C01 composed with C05) -/
theorem sendable_whole (d : DictFn) (m : Msg) (h : Sendable d m) :
    Whole d m.enc { hdr := m.hdr, avps := wireL m.avps } := by
  obtain ⟨nreq, nans, hr, hn⟩ := h.hrules
  apply whole_of_decodeMsg
  · exact api_msg_rt d m nreq nans h.hv h.hf h.hcmd h.happ h.hh h.he h.hlen h.hsz hr hn h.hc h.ht
  · simp only [Msg.enc, List.length_append, header_enc_length, encL_length m.avps h.hc, h.hlen, Msg.len]

/-- **End to end: what one side serialises, the other side's reader loop delivers.** Any number of
    sendable messages written one after another onto a byte stream that then ends - and cut by
    the transport into reads in any way whatever - are delivered as exactly those messages (in
    the tree-as-read form of C01), in order, followed by end-of-file. -/
theorem C05_sent_messages_arrive (d : DictFn) (ms : List Msg) (hm : ∀ m ∈ ms, Sendable d m)
    (s : Src) (hs : s.wf) (hb : s.bytes = (ms.map Msg.enc).flatten) (hf : s.fin = .eof) :
    (readAll d (ms.length + 1) s).1 =
      ms.map (fun m => MsgRes.msg { hdr := m.hdr, avps := wireL m.avps }) ++ [MsgRes.eof] := by
  have := C05_concat_reads d (ms.map (fun m => (m.enc, ({ hdr := m.hdr, avps := wireL m.avps } : Msg))))
    (by
      intro p hp
      obtain ⟨m, hmem, rfl⟩ := List.mem_map.mp hp
      exact sendable_whole d m (hm m hmem))
    s hs (by rw [hb]; simp [List.map_map, Function.comp_def]) hf
  simp only [List.length_map, List.map_map, Function.comp_def] at this
  rw [this]

/-- (reads that return bytes and an error together) `io.ReadFull`, which `readHeader` and
    `readBodyBytes` use (`C05_fill_gen`), adds what a Read returned before it looks at the error:
    whenever the bytes the transport delivers - up to and including the call that reports the end
    or an error - are at least what was asked for, the buffer is filled with exactly the first
    `want` of them. However the Reads are cut; whether or not the last bytes come with the end. -/
theorem C05_all_bytes_arrive (rs : List ReadRes) (want : Nat) (h : want ≤ (avail rs).length) :
    (readFullStd false want rs []).1 = .ok ((avail rs).take want) :=
  readFullStd_ok rs want [] h

/-- a loop that returns on the error before looking at what it got loses a complete message whose
    last bytes arrive together with the end of the stream -/
theorem C05_error_first_counterexample :
    (readFullStd true 4 [([1, 2], none), ([3, 4], some .eof)] []).1 = .unexpected [1, 2, 3, 4] ∧
    (readFullStd false 4 [([1, 2], none), ([3, 4], some .eof)] []).1 = .ok [1, 2, 3, 4] := by
  constructor <;> simp [readFullStd]

theorem C05_fill_gen : Gen.directReadCalls = [] ∧
    Gen.readerFillCalls = ["Message.readHeader:msr.ReadAtLeast", "Message.readHeader:io.ReadFull",
      "readBodyBytes:msr.ReadAtLeast", "readBodyBytes:io.ReadFull"] :=
  ⟨rfl, rfl⟩

/-- regenerated facts: the header length, the pooled buffer's, and the shape of the read path -/
theorem C05_gen : Gen.HeaderLength = 20 ∧ Gen.MessageBufferLength = 1024 ∧
    -- one path for every kind of reader: header, then exactly (declared length - 20) body bytes,
    -- after the declared length was checked against the header's own 20
    Gen.readMessageCalls = ["readHeader", "readBody"] ∧
    Gen.readBodyGuard = "(m.Header.MessageLength<HeaderLength)" ∧
    Gen.readBodyLength = "int((m.Header.MessageLength-HeaderLength))" ∧
    -- with a ReadTimeout the deadline is set anew before every message, whatever is buffered
    Gen.readDeadlineArming = ["if c.server.ReadTimeout > 0 { c.rwc.SetReadDeadline(time.Now().Add(c.server.ReadTimeout)) }"] :=
  ⟨rfl, rfl, rfl, rfl, rfl, rfl⟩

/-- non-vacuity: two fragmentations of a 24-byte stream (a 20-byte message and 4 stray bytes) -/
example : (Src.mk [[1,0,0,20,0x80,0,1,1, 0,0,0,0, 0,0,0,1, 0,0,0,2, 9,9,9,9]] .eof).wf ∧
    (Src.mk [[1],[0,0,20,0x80,0,1,1, 0,0,0,0, 0,0,0,1, 0,0,0],[2, 9,9],[9,9]] .eof).wf := by
  unfold Src.wf
  decide

/-- non-vacuity of `C05_concat`: a 20-byte message is `Whole`, so two of them in a row are cut
    into two messages -/
example : ∃ m, Whole ⟨fun _ _ _ => 0, fun _ _ => some (1, 1)⟩
    [1,0,0,20,0x80,0,1,1, 0,0,0,0, 0,0,0,1, 0,0,0,2] m := by
  refine ⟨{ hdr := ⟨1, 20, 128, 257, 0, 1, 2⟩, avps := [] }, by decide,
    ⟨1, 20, 128, 257, 0, 1, 2⟩, (1, 1), ?_, rfl, rfl, ?_⟩
  · decide
  · simp [decodeBody, decodeAVPs, isRequest]

/-- non-vacuity of `C05_sent_messages_arrive`: an AVP-less request is `Sendable` -/
example : Sendable ⟨fun _ _ _ => 0, fun _ _ => some (1, 1)⟩ { hdr := ⟨1, 20, 128, 257, 0, 1, 2⟩, avps := [] } :=
  { hv := by decide, hf := by decide, hcmd := by decide, happ := by decide, hh := by decide,
    he := by decide, hlen := by decide, hsz := by decide,
    hrules := ⟨1, 1, rfl, by decide⟩, hc := by decide, ht := by decide }

end DV.Props.C05
