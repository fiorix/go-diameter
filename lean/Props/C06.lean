import Model
import Spec
import Gen
import Proofs.Alias
/-!
  C06 — a decoded message never changes after it has been returned.
  Memory model (`Model.Alias`): reader buffers with a pooled flag; a retained message = its
  decoded tree (owned) + the views some values may keep into the buffer it was decoded from;
  later activity = any sequence of further `ReadMessage` calls (each given ANY pooled buffer the
  `sync.Pool` may choose, or a new one), garbage collections and writes.
  `Gen.sliceKinded` lists every data type whose Go representation could be a view, with the
  aliasing class of its decoder as read from the source.
-/
namespace DV.Props.C06
open DV

abbrev genCfg : AliasCfg := genAliasCfg

/-- Every value of every message decoded by a configuration whose slice-typed decoders all copy
    is owned: no view into the read buffer is retained - for every dictionary typing, every body,
    every nesting depth (mutual induction over the AVP walk). -/
theorem C06_owned (cfg : AliasCfg) (hc : cfg.allCopy = true) (ty : Nat → Nat → Nat) (h : Header) (tree : List AVP)
    (i : Nat) (body : Bytes) : (retain cfg ty h tree i body).views = [] :=
  viewsAVPs_nil cfg hc ty _ _ _

/-- Hence whatever happens later - any number of reads on any connection with any choice of
    pooled buffer, garbage collections, writes - everything observable about the retained
    message (header, tree, every byte of every value) is unchanged. -/
theorem C06_unchanged (cfg : AliasCfg) (hc : cfg.allCopy = true) (ty : Nat → Nat → Nat) (h : Header) (tree : List AVP)
    (i : Nat) (body : Bytes) (mem : Mem) (ops : List AOp) :
    observe (runOps cfg mem ops) (retain cfg ty h tree i body) = observe mem (retain cfg ty h tree i body) :=
  observe_noviews _ _ _ (C06_owned cfg hc ty h tree i body)

/-- The other sufficient condition: a message decoded from a buffer that is not handed back to
    the pool (a private body buffer, or a body above the pooled size) is safe even if values are
    views - later reads only ever write into pooled buffers. -/
theorem C06_private_buffer (cfg : AliasCfg) (mem : Mem) (m : Retained) (b : Buf) (hb : mem[m.buf]? = some b)
    (hp : b.pooled = false) (ops : List AOp) : observe (runOps cfg mem ops) m = observe mem m :=
  observe_samebuf _ _ _ (by rw [runOps_unpooled cfg ops mem m.buf b hb hp, hb])

/-- The current source satisfies the hypothesis: every slice-kinded data type's decoder copies
    (the intermediate `datatype.Grouped` view is consumed by `DecodeGrouped`: `GroupedAVP` holds
    only `[]*AVP`); every string-kinded data type's decoder returns conversions of its argument
    to string types only (Go copies) and no codec file imports `unsafe` (the only way to build a
    string sharing memory with a slice); so `C06_unchanged` applies to it. -/
theorem C06_gen : genCfg.allCopy = true ∧ Gen.groupedAVPFields = ["[]*AVP"] ∧
    (Gen.sliceKinded.map (·.1)) = ["Address", "Grouped", "IPv4", "IPv6", "Unknown"] ∧
    Gen.decoderAliasing.all (fun r => r.2 = "copy") = true ∧
    Gen.stringDecoders.all (fun r => r.2 = "conversion") = true ∧ Gen.unsafeImports = [] ∧
    Gen.bodyBuffer = "pooled" ∧
    Gen.syncPools = ["diam:readerBufferPool", "diam:writerBufferPool"] :=
  ⟨rfl, rfl, rfl, rfl, rfl, rfl, rfl, rfl⟩

theorem C06_current (ty : Nat → Nat → Nat) (h : Header) (tree : List AVP) (i : Nat) (body : Bytes) (mem : Mem) (ops : List AOp) :
    observe (runOps genCfg mem ops) (retain genCfg ty h tree i body) = observe mem (retain genCfg ty h tree i body) :=
  C06_unchanged genCfg C06_gen.1 ty h tree i body mem ops

/-- The model distinguishes: with a decoder that returns a view (as `DecodeUnknown` did before
    the repair d7a2fc9) one later read that is given the same pooled buffer changes the retained
    message - the hypothesis of `C06_unchanged` is needed. -/
theorem C06_alias_counterexample :
    let cfg : AliasCfg := { unknown := true, address := false, ipv4 := false, ipv6 := false, bodyPooled := true }
    let ty : Nat → Nat → Nat := fun _ _ => T.unknown
    let body : Bytes := [0,0,0,99, 0, 0,0,12, 1,2,3,4]
    let mem : Mem := [{ data := overwrite (zeros 1024) body, pooled := true }]
    let hd : Header := { version := 1, len := 32, flags := 0, cmd := 0, app := 0, hbh := 0, e2e := 0 }
    let m := retain cfg ty hd [] 0 body
    m.views = [⟨8, 4⟩] ∧
    (observe mem m).2.2 = [[1,2,3,4]] ∧
    (observe (runOps cfg mem [.read 0 [0,0,0,98, 0, 0,0,12, 9,9,9,9]]) m).2.2 = [[9,9,9,9]] := by
  decide

/-- non-vacuity of `C06_unchanged`: the same history with the current configuration -/
example :
    let ty : Nat → Nat → Nat := fun _ _ => T.unknown
    let body : Bytes := [0,0,0,99, 0, 0,0,12, 1,2,3,4]
    let mem : Mem := [{ data := overwrite (zeros 1024) body, pooled := true }]
    let hd : Header := { version := 1, len := 32, flags := 0, cmd := 0, app := 0, hbh := 0, e2e := 0 }
    (retain genCfg ty hd [] 0 body).views = [] ∧
    ((runOps genCfg mem [.read 0 [0,0,0,98, 0, 0,0,12, 9,9,9,9]])[0]?.map (fun b => b.data.take 12)) =
      some [0,0,0,98, 0, 0,0,12, 9,9,9,9] := by
  decide

end DV.Props.C06
