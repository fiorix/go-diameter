import Model
import Spec
import Gen
import Proofs.Pool
import Proofs.Writers
import Proofs.Bufio
/-!
  C07 — concurrent and retried writes deliver each message whole, exactly once.
  (A) `writeRetry` / `writeStreamRetry`: the transport is any script of (bytes accepted, error)
      outcomes obeying the `io.Writer` contract; theorem by induction over the script.
  (B) N goroutines writing through `response.Write` (mutex held across buffered Write and
      Flush): labelled transition system, invariant for every reachable state = every schedule.
-/
namespace DV.Props.C07
open DV

/-- (A) For every message image `b`, every retry budget `r` and every contract-abiding outcome
    script: the bytes the transport accepted, in order, are the prefix `b[:n]` where `n` is the
    returned count; a nil error means all of `b` was accepted; every attempt was offered exactly
    the not-yet-accepted suffix (no accepted byte is ever offered again, none is skipped); there
    are at most `r+1` attempts. -/
theorem C07_retry (b : Bytes) (r : Nat) (os : List Outcome) (hc : contract b r os) :
    (writeRetry b r os).accepted.flatten = b.take (writeRetry b r os).n ∧
    (writeRetry b r os).n ≤ b.length ∧
    ((writeRetry b r os).err = none → (writeRetry b r os).accepted.flatten = b) ∧
    (writeRetry b r os).offered = offeredSpec b (writeRetry b r os).accepted ∧
    (writeRetry b r os).offered.length ≤ r + 1 :=
  writeRetry_spec b r os hc

/-- a permanent error, or an exhausted budget, stops the loop at once -/
theorem C07_retry_stops (b : Bytes) (r : Nat) (o : Outcome) (os : List Outcome)
    (h : o.err = some .perm ∨ r = 0) :
    (writeRetry b r (o :: os)).offered = [b] ∧ (writeRetry b r (o :: os)).err = o.err := by
  rw [writeRetry, if_pos (h.elim (.inr ∘ .inr) (.inr ∘ .inl))]
  exact ⟨rfl, rfl⟩

/-- (B) In every reachable state - i.e. for every number of writers, every program, every
    interleaving of serialisations, lock acquisitions, partial transport writes (stalls
    included) and releases - the transport log is the concatenation of whole messages, each a
    completed write, followed by a prefix of the one message whose writer holds the lock. -/
theorem C07_whole (prog : Nat → List Bytes) (es : List WEv) (s : WSys)
    (h : (WSys.init prog).run es = some s) :
    s.wire = (s.done.map Prod.snd).flatten ++ holderPrefix s :=
  (WInv_reachable h).wire

/-- ... nobody else holds a partially written message (mutual exclusion), ... -/
theorem C07_exclusive (prog : Nat → List Bytes) (es : List WEv) (s : WSys)
    (h : (WSys.init prog).run es = some s) (i j : Nat) (m r m' r' : Bytes)
    (hi : (s.writers i).pc = .holding m r) (hj : (s.writers j).pc = .holding m' r') : i = j := by
  have inv := WInv_reachable h
  exact Option.some.inj ((inv.excl i m r hi).symm.trans (inv.excl j m' r' hj))

/-- ... and each writer's completed messages, the one in flight and those still queued are its
    program, in program order: every message is written exactly once and in order. -/
theorem C07_once_ordered (prog : Nat → List Bytes) (es : List WEv) (s : WSys)
    (h : (WSys.init prog).run es = some s) (i : Nat) :
    ((s.done.filter (fun p => p.1 = i)).map Prod.snd) ++ cur (s.writers i).pc ++ (s.writers i).queue = prog i :=
  (WInv_reachable h).order i

/-- at quiescence (nothing queued, nobody in flight) the wire is exactly the completed messages
    and every writer's messages appear in its own order -/
theorem C07_quiescent (prog : Nat → List Bytes) (es : List WEv) (s : WSys)
    (h : (WSys.init prog).run es = some s) (hl : s.lock = none)
    (hq : ∀ i, (s.writers i).pc = .idle ∧ (s.writers i).queue = []) :
    s.wire = (s.done.map Prod.snd).flatten ∧
    ∀ i, (s.done.filter (fun p => p.1 = i)).map Prod.snd = prog i := by
  have inv := WInv_reachable h
  refine ⟨by rw [inv.wire, holderPrefix_none hl, List.append_nil], fun i => ?_⟩
  rw [← inv.order i, (hq i).1, (hq i).2, List.append_nil]
  exact (List.append_nil _).symm

/-- (A') The same through the library's own writer: `WriteToWithRetry(conn, r)` on a `diam.Conn`
    whose `response.Write` goes through the connection's `bufio.Writer` (buffered below 4096
    octets, written directly above). For every message image, retry budget and transport
    behaviour: the transport is given a prefix of the message, once; a nil error means all of it
    and the count is its length; after an error the writer is in bufio's sticky state, ... -/
theorem C07_retry_conn (b : Bytes) (r : Nat) (os : List Outcome) :
    let res := connWriteRetry r {} b os
    (∃ k, k ≤ b.length ∧ res.accepted.flatten = b.take k) ∧
    (res.err = none → res.accepted.flatten = b ∧ res.n = b.length ∧ res.st.healthy) ∧
    (res.err ≠ none → res.st.err ≠ none) :=
  connWriteRetry_spec r {} ⟨rfl, rfl⟩ b os

/-- ... in which nothing reaches the transport any more: an incomplete message is the last
    thing the peer receives from this connection, so the stream never goes out of frame -/
theorem C07_failed_write_is_final (st : BW) (e : EK) (he : st.err = some e) (p : Bytes) (os : List Outcome) :
    respWrite st p os = ((0, some e), { st := st, os := os, acc := [] }) :=
  respWrite_sticky st e he p os

/-- and a writer that has completed a message is ready for the next (induction step for any
    sequence of messages on one connection) -/
theorem C07_conn_next (st : BW) (h : st.healthy) (b : Bytes) (r : Nat) (os : List Outcome) :
    let res := connWriteRetry r st b os
    (∃ k, k ≤ b.length ∧ res.accepted.flatten = b.take k) ∧
    (res.err = none → res.accepted.flatten = b ∧ res.n = b.length ∧ res.st.healthy) ∧
    (res.err ≠ none → res.st.err ≠ none) :=
  connWriteRetry_spec r st h b os

/-- the structural facts the models stand on, regenerated from server.go: `response.Write` takes
    `w.mu` first, releases it by defer, and contains both the buffered Write and the Flush; on an
    error it returns a count of zero; nothing resets a buffered writer -/
theorem C07_gen : Gen.responseWriteLocked = true ∧ Gen.MessageBufferLength = 1024 ∧
    Gen.responseWriteReturns = ["return msc.Write(b)", "return 0,err", "return 0,err", "return n,nil"] ∧
    Gen.serverResetCalls = [] ∧
    Gen.connBufferSources = ["c.buf=bufio.NewReadWriter(bufio.NewReader(&c.sr),bufio.NewWriter(rwc))"] :=
  ⟨rfl, rfl, rfl, rfl, rfl⟩

/-- (pooled serialisation buffers) `WriteToStreamWithRetry` serialises into a buffer taken from
    `writerBufferPool` and hands it back when it returns. With one put per call - what the source
    does, `C07_pool_gen` - then for EVERY interleaving of any number of concurrent calls (and of
    the collector emptying the pool): no buffer is ever in the hands of two calls, and no buffer
    in use is in the pool where a third call could be given it. So the bytes one call hands to the
    transport are its own message's. -/
theorem C07_pool_exclusive (es : List PoolEv) (p : Pool) (h : Pool.run 1 {} es = some p) :
    (∀ u v b, (u, b) ∈ p.held → (v, b) ∈ p.held → u = v) ∧ (∀ u b, (u, b) ∈ p.held → b ∉ p.free) :=
  Pool.exclusive_of_run h

/-- the discipline is needed: a call that hands its buffer back twice (once on an error path and
    once more by the deferred put) leaves the buffer in the pool twice, and the next two calls
    are both given it -/
theorem C07_pool_double_put_counterexample :
    ((Pool.run 2 {} [.acquire 0, .release 0, .acquire 1, .acquire 2]).map (·.held)) = some [(2, 0), (1, 0)] := by
  decide

/-- regenerated from every non-test file under diam/: each function that uses a pool makes one
    getting call and defers one putting call into the same pool; the pool primitives get or put
    exactly once -/
theorem C07_pool_gen :
    Gen.poolUsers.all (fun u => Pool.disciplined u.2) = true ∧
    Gen.poolPrimitives.all (fun p => (p.2.2.1 = 1 ∧ p.2.2.2 = 0) ∨ (p.2.2.1 = 0 ∧ p.2.2.2 = 1)) = true ∧
    (Gen.poolUsers.map (·.1)).contains "diam:Message.WriteToStreamWithRetry" = true :=
  -- the tables are checked by evaluation (`simp` compares the string literals, which is dear by `decide` or `rfl`)
  ⟨by decide, by decide, by simp [Gen.poolUsers]⟩

/-- (capacities of pooled buffers) `MessageBufferLength` is a variable of the application's. With
    the capacity check in `newWriterBuffer` (`C07_pool_cap_gen`), for EVERY sequence of
    assignments to it and of writes of any sizes, every write is given a buffer that holds its
    message - so the message is serialised whole (C03_serialize_fits) and handed to the Conn -/
theorem C07_pool_capacity (es : List CapEv) (p : CapPool) : (CapPool.run true p es).2 = true :=
  CapPool_run_ok es p

/-- without the check (the source before 2ad7047, F23): a small write, the length is raised, a
    write between the two lengths is given the old, short buffer -/
theorem C07_pool_capacity_counterexample :
    (CapPool.run false { len := 1024 } [.use 100, .setLen 4096, .use 1500]).2 = false := by decide

theorem C07_pool_cap_gen : Gen.writerBufferReuseCond = "(cap(b.Bytes())>=min)" :=
  rfl

/-- non-vacuity: three calls, the third reuses the buffer the first handed back -/
example : ((Pool.run 1 {} [.acquire 0, .acquire 1, .release 0, .acquire 2]).map (fun p => (p.held, p.free, p.next))) =
    some ([(2, 0), (1, 1)], [], 2) := rfl

/-- non-vacuity (A): 10 bytes, budget 2: 3 accepted + temporary error, 0 + temporary, then 7 -/
example : contract [1,2,3,4,5,6,7,8,9,10] 2 [⟨3, some .temp⟩, ⟨0, some .temp⟩, ⟨7, none⟩] ∧
    (writeRetry [1,2,3,4,5,6,7,8,9,10] 2 [⟨3, some .temp⟩, ⟨0, some .temp⟩, ⟨7, none⟩]).offered
      = [[1,2,3,4,5,6,7,8,9,10], [4,5,6,7,8,9,10], [4,5,6,7,8,9,10]] := by
  refine ⟨?_, rfl⟩
  simp [contract, Outcome.ok]

/-- non-vacuity (A'): a 5000-octet message written directly, 100 octets accepted with a temporary
    error, two retries: the transport holds those 100 octets and nothing else; the call fails -/
example :
    let b : Bytes := List.replicate 5000 7
    let res := connWriteRetry 2 {} b [⟨100, some .temp⟩]
    res.accepted.flatten.length = 100 ∧ res.err = some .temp ∧ res.attempts = 3 := by
  intro b res
  have hb : b.length = 5000 := List.length_replicate
  have ht : twrite b [⟨100, some .temp⟩] = ((100, some .temp), []) := by rw [twrite, hb]; rfl
  obtain ⟨_, hw⟩ := respWrite_fail 4096 (List.ne_nil_of_length_pos (hb ▸ by decide)) ht
  have hres : res = _ := connWriteRetry_err hw rfl
  rw [hres]
  exact ⟨by simp [hb], rfl, rfl⟩

/-- non-vacuity (B): two writers, the second blocked while the first's write is stalled half-way -/
example :
    let prog : Nat → List Bytes := fun i => if i = 0 then [[1,2,3,4]] else if i = 1 then [[9,9]] else []
    (((WSys.init prog).run [.start 0, .start 1, .acquire 0, .xfer 0 2, .acquire 1]).isNone) ∧
    (((WSys.init prog).run [.start 0, .start 1, .acquire 0, .xfer 0 2, .xfer 0 2, .release 0, .acquire 1, .xfer 1 2, .release 1]).map (·.wire)) = some [1,2,3,4,9,9] :=
  ⟨rfl, rfl⟩

end DV.Props.C07
