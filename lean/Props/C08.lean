import Model
import Spec
import Gen
import Proofs.ConnData
import Proofs.Shared
/-!
  C08 — one connection: handlers one at a time, in arrival order; connections do not wait for
  each other. `Model.Conn` is one connection's reader loop (handler entered / returned as
  events); `Model.Shared` is any number of such connections sharing one `ServeMux`.
  All theorems are about every event sequence (every schedule), of any length.
-/
namespace DV.Props.C08
open DV DV.Spec

/-- Never two handlers active on one connection: the number of running handlers is 1 exactly
    while the reader goroutine is inside `ServeDIAM`, else 0, and it never exceeded 1. -/
theorem C08_one_at_a_time (d : DictFn) (c : Bool) (es : List CEv) (s : CN) (h : CN.run d { coal := c } es = some s) :
    s.active ≤ 1 ∧ s.maxActive ≤ 1 ∧ (s.active = 1 ↔ s.reader = .inHandler) := by
  have inv := (Inv_reach d c es s h).1
  have a := flag_count inv.act
  exact ⟨a.1, inv.maxAct, a.2⟩

/-- the next message is read only after the handler of the previous one has returned: a reader
    step is not enabled while a handler runs -/
theorem C08_next_after_return (d : DictFn) (s : CN) (h : s.reader = .inHandler) : s.step d .readerStep = none :=
  (CN.readerStep_none d s).2 (.inl h)

/-- Arrival order: in every reachable state the messages handed to handlers, in the order they
    were handed over, are exactly the first messages of the reference split - by declared length -
    of the bytes the peer delivered, however they were fragmented; the rest of the split comes
    from the bytes still in flight. No message is skipped, repeated or reordered. -/
theorem C08_order (d : DictFn) (c : Bool) (es : List CEv) (s : CN) (h : CN.run d { coal := c } es = some s) :
    ∃ rest, s.sent = s.consumed ++ rest ∧
      ∀ (fin : Fin) (fuel : Nat),
        (split d (s.handed.length + fuel) s.sent fin).1 = s.handed.map MsgRes.msg ++ (split d fuel rest fin).1 := by
  obtain ⟨r, h1, -, h2⟩ := (Inv_reach d c es s h).2.split_handed
  exact ⟨r, h1, h2⟩

/-- ... and a live connection whose handler has returned and whose goroutines cannot move has
    dispatched every complete message that arrived. -/
theorem C08_all_dispatched (d : DictFn) (c : Bool) (es : List CEv) (s : CN) (h : CN.run d { coal := c } es = some s)
    (hq : s.quiescent d = true) (ht : s.terminated = false) (hh : s.reader ≠ .inHandler) :
    s.inbox = [] ∧ s.pipeData = [] ∧ nextMsg d s.rbuf = .need :=
  CInv_nothing_stuck d s (Inv_reach d c es s h).1 hq ht hh

/-- Non-interference: in every schedule of a server with any number of connections, what
    connection `j` does is what it would do alone on its own events. A handler held forever on
    another connection is just the absence of its return event - it cannot delay `j`. -/
theorem C08_frame (d : DictFn) (df : Bool) (es : List (Nat × CEv)) (S S' : Sys) (j : Nat) (cj : CN)
    (h : S.run d df es = some S') (hj : S.conns[j]? = some cj) :
    ∃ cj', S'.conns[j]? = some cj' ∧ cj.run d (projEv j es) = some cj' :=
  Sys.frame d df es S S' j cj h hj

/-- an event enabled on connection `j` alone is enabled in the system, whatever state the other
    connections are in -/
theorem C08_enabled (d : DictFn) (df : Bool) (S : Sys) (j : Nat) (cj cj' : CN) (e : CEv)
    (hj : S.conns[j]? = some cj) (he : cj.step d e = some cj') : (S.step d df j e).isSome = true := by
  simp [Sys.step, hj, he]

/-- structural facts regenerated from the source: the handler call in `conn.serve` is a plain
    statement inside the read loop (not `go`, not a channel send); every connection gets its own
    `go c.serve()`; `ServeMux.ServeDIAM` takes the mux lock in read mode -/
theorem C08_gen : Gen.serveDispatchSync = true ∧ Gen.goServeSites = 4 ∧ Gen.muxServeRLockDeferred = true ∧
    Gen.acceptSpawnsServe = true ∧
    -- what the connections of `Sys` share is the handler, the mux's read lock and the byte-buffer
    -- pools: package diam has no package-level channel, mutex, condition or wait group, `Server`
    -- has no such field, and `serverHandler.ServeDIAM` only hands the message to the handler -
    -- nothing one connection's loop could wait for another connection's handler on (`C08_frame`)
    Gen.sharedBlockingState = [] ∧ Gen.serverHandlerCalls = ["handler.ServeDIAM"] :=
  ⟨rfl, rfl, rfl, rfl, rfl, rfl⟩

/-- non-vacuity: two connections; a handler is held on connection 0 while connection 1 receives,
    dispatches and finishes a message -/
example :
    let d : DictFn := { cmdRules := fun _ _ => some (1, 1), avpType := fun _ _ _ => 0 }
    let m1 : Bytes := [1,0,0,20,0x80,0,1,1, 0,0,0,0, 0,0,0,1, 0,0,0,1]
    let m2 : Bytes := [1,0,0,20,0x80,0,1,1, 0,0,0,0, 0,0,0,2, 0,0,0,2]
    (((Sys.init [false, false]).run d true
        [(0, .deliver m1), (0, .readerStep), (0, .readerStep), (1, .deliver m2), (1, .readerStep), (1, .readerStep),
         (1, .handlerReturn)]).map
      (fun S => (S.conns.map (fun c => (c.handed.map (·.hdr.hbh), c.active)), S.rlocks))) =
      some ([([1], 1), ([2], 0)], 1) := by
  decide

end DV.Props.C08
