import Model
import Spec
import Gen
import Proofs.Mux
import Proofs.Dict
/-!
  C09 — dispatch selects the handler by index, then by name, then the catch-all.
-/
namespace DV.Props.C09
open DV DV.Spec

theorem C09_decision (rs : List Reg) (short : Option Nat) (app code : Nat) (req : Bool) :
    (Mux.ofRegs rs).dispatch short app code req = Spec.dispatch rs short app code req :=
  Mux.dispatch_eq rs short app code req

/-- no other handler is ever called: the handler dispatched was registered, by a registration
    that applies to the message -/
theorem C09_only_registered (rs : List Reg) (short : Option Nat) (app code : Nat) (req : Bool) (h : Nat)
    (hd : (Mux.ofRegs rs).dispatch short app code req = .handler h) :
    ∃ r ∈ rs, (byIdx app code req r = some h ∨ (∃ s, short = some s ∧ byName s req r = some h) ∨ byAll r = some h) := by
  rw [C09_decision] at hd
  revert hd
  -- the rows of the table that yield a handler; in each, `lastReg_mem` gives the registration it came from
  fun_cases Spec.dispatch rs short app code req <;> rintro ⟨⟩
  next h' => exact (lastReg_mem _ rs h h').imp fun r hr => ⟨hr.1, .inr (.inr hr.2)⟩ -- no short name: the catch-all
  next _ h' => exact (lastReg_mem _ rs h h').imp fun r hr => ⟨hr.1, .inl hr.2⟩ -- the index
  next s _ h' => exact (lastReg_mem _ rs h h').imp fun r hr => ⟨hr.1, .inr (.inl ⟨s, rfl, hr.2⟩)⟩ -- the name
  next _ _ h' => exact (lastReg_mem _ rs h h').imp fun r hr => ⟨hr.1, .inr (.inr hr.2)⟩ -- the catch-all

/-- registering a key again replaces the earlier handler -/
theorem C09_lastwins (rs : List Reg) (app code : Nat) (req : Bool) (h : Nat) (s : Option Nat) (hs : s.isSome) :
    (Mux.ofRegs (rs ++ [.idx app code req h])).dispatch s app code req = .handler h := by
  obtain ⟨s, rfl⟩ := Option.isSome_iff_exists.mp hs
  simp [C09_decision, Spec.dispatch, lastReg_append, lastReg, byIdx]

theorem C09_all_replaced_across_apis (rs : List Reg) (h h' : Nat) (short : Option Nat) (app code : Nat) (req : Bool)
    (hi : lastReg (byIdx app code req) (rs ++ [.all h, .idx allIdx.1 allIdx.2.1 allIdx.2.2 h']) = none)
    (hn : ∀ s, short = some s → lastReg (byName s req) (rs ++ [.all h, .idx allIdx.1 allIdx.2.1 allIdx.2.2 h']) = none) :
    (Mux.ofRegs (rs ++ [.all h, .idx allIdx.1 allIdx.2.1 allIdx.2.2 h'])).dispatch short app code req = .handler h' := by
  rw [C09_decision]
  unfold Spec.dispatch
  -- the catch-all lookup is decided within the last two registrations
  cases short with
  | none => rw [lastReg_append]; rfl
  | some s => dsimp only; rw [hi, hn s rfl, lastReg_append]; rfl

/-- end to end, dictionary included: for EVERY list of dictionary files loaded, every sequence of
    registrations and every message, what `ServeDIAM` does is the decision table applied to the
    short name that the *log* of definitions gives the command - the latest definition in the
    message's own application, else the latest in the base application (C17) -/
theorem C09_serve (available : List (Nat × Nat)) (fs : List FileRow) (rs : List Reg) (app code : Nat) (req : Bool) :
    (Mux.ofRegs rs).serve (Parser.loadAll available fs) app code req =
      Spec.dispatch rs ((Spec.findCommand (logAll available fs) app code).map (·.short)) app code req := by
  unfold Mux.serve
  rw [C09_decision, findCommand_refines _ _ (loadAll_refines available fs) app code]

/-- the catch-all has one key: registering it through `HandleIdx(ALL_CMD_INDEX, h)` or through
    `Handle("ALL", h)` is the same registration, so either replaces the other -/
theorem C09_all_one_key (mux : Mux) (h : Nat) :
    mux.reg (.idx allIdx.1 allIdx.2.1 allIdx.2.2 h) = mux.reg (.all h) := rfl

theorem C09_gen : Gen.allCmdIndex = (4294967295, 4294967295, 0) ∧ Gen.capErrorReports = 1 ∧
    Gen.muxServeRLockDeferred = true ∧
    -- the dispatch consults exactly these maps with exactly these keys, in this order (`Mux.dispatch`):
    -- the index map with the message's own key, the name map, the index map with ALL_CMD_INDEX
    Gen.muxDispatchLookups = ["ServeDIAM:mux.idxMap[idx]", "serveIdx:mux.idxMap[cmd]", "serveIdx:mux.idxMap[ALL_CMD_INDEX]",
      "serve:mux.m[cmd]", "serve:mux.idxMap[ALL_CMD_INDEX]"] ∧
    Gen.muxStructFields = ["e chan *ErrorReport", "mu sync.RWMutex", "m map", "idxMap map"] :=
  ⟨rfl, rfl, rfl, rfl, rfl⟩

/-- non-vacuity: index beats name beats ALL; re-registration replaces -/
example :
    (Mux.ofRegs [.all 3, .name 7 0 2, .idx 4 272 true 1, .idx 4 272 true 9]).dispatch (some 7) 4 272 true = .handler 9 ∧
    (Mux.ofRegs [.all 3, .name 7 0 2]).dispatch (some 7) 4 272 true = .handler 2 ∧
    (Mux.ofRegs [.all 3, .name 7 0 2]).dispatch (some 7) 4 272 false = .handler 3 ∧
    (Mux.ofRegs [.name 7 0 2]).dispatch none 4 999 true = .report := by decide

end DV.Props.C09
