import Model
import Spec
import Gen
import Proofs.SMServer
import Proofs.Client
/-!
  C10 — no application handler runs before the capabilities exchange succeeds.
  `smStep` is one inbound message on a server-side connection whose handler is a state machine
  (`sm.New` + application registrations through `StateMachine.Handle/HandleFunc/HandleIdx`);
  `smRun` a whole history. Also here: the server half of C13 (every well-formed DWR is answered).
-/
namespace DV.Props.C10
open DV DV.Spec

/-- (i) an application handler is invoked only on a connection whose context holds metadata -/
theorem C10_gate (env : SMEnv) (short : Option Nat) (s : ConnSt) (m : Msg) (k : Nat)
    (h : Act.app k ∈ (smStep env short s m).2) : s.peer.isSome = true := by
  rcases smStep_cases env short s m with ⟨_, _, _, _, _, _, e⟩ | ⟨_, hp, _⟩ | ⟨_, hq⟩
  · simp [e] at h
  · exact hp
  · exact (not_quiet hq h rfl).elim

/-- (ii) once the metadata is set, a message that C09's decision maps to an application
    registration invokes exactly that handler -/
theorem C10_after (env : SMEnv) (short : Option Nat) (s : ConnSt) (m : Msg) (hh k : Nat)
    (hp : s.peer.isSome = true)
    (hd : Spec.dispatch (smRegs env.shortCE env.shortDW env.regs) short m.hdr.app m.hdr.cmd (isRequest m.hdr.flags) = .handler hh)
    (ht : targetOf hh = .app k) : smStep env short s m = (s, [.app k]) := by
  unfold smStep
  rw [Mux.dispatch_eq, hd]
  simp only [ht, hp, if_true]

/-- (iv) metadata is stored only together with a success CEA that the transport accepted -/
theorem C10_meta_after_write (env : SMEnv) (short : Option Nat) (s : ConnSt) (m : Msg) (mt : Meta)
    (h : Act.setMeta mt ∈ (smStep env short s m).2) :
    s.closed = false ∧ ∃ ips v, env.ips = some ips ∧ cerParse env.appOK m.avps = .ok v ∧
      Act.wrote (successCEA env.cfg env.apps ips m.hdr v) ∈ (smStep env short s m).2 ∧
      mt = { host := v.host, realm := v.realm, apps := v.ids } := by
  rcases smStep_cases env short s m with ⟨ips, v, _, hc, hi, hv, e⟩ | ⟨_, _, e⟩ | ⟨_, hq⟩
  · rw [e] at h ⊢
    exact ⟨hc, ips, v, hi, hv, List.mem_cons_self, by simpa using h⟩
  · simp [e] at h
  · exact (not_quiet hq h rfl).elim

/-- (i), for whole histories: if application handler `k` is invoked for the i-th message of ANY
    sequence of messages on a fresh connection, then an earlier message of that sequence was a
    CER that was answered with a success CEA and set the metadata. -/
theorem C10_history (env : SMEnv) (shortOf : Msg → Option Nat) :
    ∀ (ms : List Msg) (s : ConnSt), s.peer = none → ∀ (i k : Nat),
      Act.app k ∈ (smRun env shortOf s ms).getD i [] →
      ∃ j, j < i ∧ ∃ mt, Act.setMeta mt ∈ (smRun env shortOf s ms).getD j []
  | [], s, _, i, k, h => nomatch h
  | m :: r, s, h0, 0, k, h => absurd (C10_gate env (shortOf m) s m k h) (by rw [h0]; nofun)
  | m :: r, s, h0, i + 1, k, h => by
    by_cases hp : (smStep env (shortOf m) s m).1.peer = none
    · obtain ⟨j, hj, mt, hmt⟩ := C10_history env shortOf r _ hp i k h
      exact ⟨j + 1, Nat.succ_lt_succ hj, mt, hmt⟩
    · obtain ⟨mt, hmt⟩ := peer_set env (shortOf m) s m h0 hp
      exact ⟨0, Nat.succ_pos i, mt, hmt⟩

/-- (iii) whatever the application registers, a base-application CER (application 0, code 257,
    request) is processed by the built-in CER handler and a base DWR by the built-in DWR handler -/
theorem C10_builtin (ce dw : Nat) (regs : List Reg) (s : Nat) :
    Spec.dispatch (smRegs ce dw regs) (some s) 0 257 true = .handler 1002 ∧
    Spec.dispatch (smRegs ce dw regs) (some s) 0 280 true = .handler 1003 := by
  have k := kept_not_builtin ce dw regs
  unfold smRegs Spec.dispatch
  simp only [lastReg_append, lastReg_none _ _ fun r hr => (k r hr).1, lastReg_none _ _ fun r hr => (k r hr).2.1]
  exact ⟨rfl, rfl⟩

/-- application registrations under the names CER, CEA and DWR are refused -/
theorem C10_names_refused (ce dw : Nat) (regs : List Reg) (r : Reg)
    (hr : r ∈ regs.filter (fun r => ¬ refused ce dw r)) :
    byName ce true r = none ∧ byName ce false r = none ∧ byName dw true r = none :=
  (kept_not_builtin ce dw regs r hr).2.2

/-- C13: a DWR carrying Origin-Host and Origin-Realm, dispatched to the state machine's DWR
    handler on an open connection of a peer that completed the handshake, is answered with a DWA -/
theorem C13_dwa_sent (env : SMEnv) (short : Option Nat) (s : ConnSt) (m : Msg) (hh : Nat)
    (hd : (Mux.ofRegs (smRegs env.shortCE env.shortDW env.regs)).dispatch short m.hdr.app m.hdr.cmd (isRequest m.hdr.flags) = .handler hh)
    (ht : targetOf hh = .dwr ∨ targetOf hh = .dwrGated) (hp : s.peer.isSome = true) (hc : s.closed = false)
    (h1 : (strField C.originHost m.avps).isEmpty = false) (h2 : (strField C.originRealm m.avps).isEmpty = false) :
    smStep env short s m = (s, [.wrote (dwa env.cfg m.hdr)]) := by
  unfold smStep
  rw [hd]
  dsimp only
  have e1 : (Target.dwr == Target.dwrGated) = false := by decide
  have e2 : s.peer.isNone = false := by cases hs : s.peer <;> simp_all
  rcases ht with ht | ht <;> simp [ht, hc, h1, h2, e1, e2]

/-- C13 / C16: the DWA has Result-Code 2001, the local identity (and the configured Origin-State-Id), and the request's command code,
    application id, hop-by-hop and end-to-end identifiers with the request bit cleared -/
theorem C13_dwa_fields (cfg : Settings) (req : Header) (hf : req.flags < 256) :
    (dwa cfg req).hdr.hbh = req.hbh ∧ (dwa cfg req).hdr.e2e = req.e2e ∧ (dwa cfg req).hdr.cmd = req.cmd ∧
    (dwa cfg req).hdr.app = req.app ∧ isRequest (dwa cfg req).hdr.flags = false ∧
    (dwa cfg req).hdr.flags % 128 = req.flags % 128 ∧
    (dwa cfg req).avps = [newAVP C.resultCode 64 0 (.fix T.u32 2001),
      newAVP C.originHost 64 0 (.str T.ident cfg.originHost), newAVP C.originRealm 64 0 (.str T.ident cfg.originRealm)]
      ++ (if cfg.originStateId ≠ 0 then [newAVP C.originStateId 64 0 (.fix T.u32 cfg.originStateId)] else []) := by
  have a := dwa_fields cfg req
  exact ⟨a.hbh, a.e2e, a.cmd, a.app, a.flags ▸ (clearR req.flags).1, a.flags ▸ (clearR req.flags).2, a.avps⟩

/-- Client side: the first CEA the connection handles decides whether the peer's metadata - the
    gate for application handlers - is ever stored. In every reachable state of the handshake in
    which a CEA has been handled, a further CEA changes nothing, whether it is dispatched
    normally or comes out of the read buffer after the handshake has closed the transport (a
    failing CEA, a valid one and application messages in one segment): in particular after a
    failing first CEA the gate stays shut for good. -/
theorem C10_client_first_cea_decides (R : Nat) (wd : Bool) (es : List HEv) (s : HS)
    (h : (HS.init R Gen.capErrc Gen.ceaHandlerOnce wd).run es = some s) (hf : s.fired = true) (k : CEAKind) :
    (∀ s', s.step (.cea k) = some s' → s' = s) ∧ (∀ s', s.step (.leftover k) = some s' → s' = s) := by
  have hh : s.handleCEA k = s := handleCEA_fired (HInv_reach (Nat.le_refl 1) h).once hf
  constructor <;> intro s' hs <;> dsimp only [HS.step] at hs
  · split at hs <;> cases hs; exact hh
  · split at hs <;> cases hs; exact hh

/-- ... and metadata is only ever stored by a success CEA: while none has been handled the gate
    is shut -/
theorem C10_client_gate_needs_success (R : Nat) (wd : Bool) (es : List HEv) (s : HS)
    (h : (HS.init R Gen.capErrc Gen.ceaHandlerOnce wd).run es = some s) (hm : s.hasMeta = true) :
    s.fired = true ∧ s.errcClosed = true :=
  (HInv_reach (Nat.le_refl 1) h).metaFired hm

/-- regenerated facts: which registrations `sm.New` makes and which of them are gated -/
theorem C10_gen : Gen.smNewRegs = [("\"CER\"", "handleCER(sm)"), ("\"DWR\"", "handshakeOK(handleDWR(sm))"),
    ("baseCERIdx", "handleCER(sm)"), ("baseDWRIdx", "handleDWR(sm)")] ∧
    Gen.cmdCapabilitiesExchange = 257 ∧ Gen.cmdDeviceWatchdog = 280 :=
  ⟨rfl, rfl, rfl⟩

/-- the gate itself, regenerated from sm.go: `handshakeOK` is a plain function type (it has no
    state of its own to remember an earlier connection's handshake in) and its `ServeDIAM` looks
    the peer metadata up in the context of the connection the message came in on, every time -/
theorem C10_gate_gen : Gen.handshakeGateType = "diam.HandlerFunc" ∧
    Gen.handshakeGateBody = ["if _, ok := smpeer.FromContext(c.Context()); ok { f(c, m) }"] ∧
    -- the handlers run on the connection's reader: the only send that may block is the client's
    -- once-protected report into its own buffered `errc` (C12_noblock); notifications on channels
    -- nobody has to read (HandshakeNotify, error reports, the watchdog's ack) never block a reader
    Gen.channelSends = [("diam:ServeMux.Error", "mux.e", "select-default"),
      ("diam/sm:handleCEA", "errc", "blocking"), ("diam/sm:handleCEA", "sm.hsNotifyc", "select-default"),
      ("diam/sm:handleCER", "sm.hsNotifyc", "select-default"), ("diam/sm:handleDWA", "dwac", "select-default")] ∧
    -- a dialled connection is not a listener: the client takes over CER (by index and by name)
    -- before it sends its own, so that a CER of the peer's cannot open the gate
    Gen.handshakeRegistrations = ["HandleIdx:baseCERIdx", "HandleFunc:\"CER\"", "Handle:\"CEA\"", "Handle:\"DWA\""] :=
  ⟨rfl, rfl, rfl, rfl⟩

end DV.Props.C10
