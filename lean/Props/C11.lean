import Model
import Spec
import Gen
import Proofs.SMServer
import Proofs.LocalAddr
/-!
  C11 — a CER is accepted exactly when a common application exists.
  `cerParse` models `smparser.CER.Parse` (Unmarshal by dictionary code, sanityCheck, in-band
  security, `Application.Parse` with its order-sensitive error selection); `Spec.accept` is the
  property's condition stated on the AVPs. `appOK id typ` stands for "the local dictionary
  supports application id with that type" - quantified, so the theorems hold for every dictionary.
-/
namespace DV.Props.C11
open DV DV.Spec

theorem inband_cases (as : List AVP) :
    (inbandOK as = true ∨ inbandRequired as = true ∨ inbandMalformed as = true) := by
  rw [inbandOK_eq]; cases inbandRequired as <;> cases inbandMalformed as <;> simp

/-- For every CER (any multiset of AVPs in any order) and every dictionary: the state machine's
    parser accepts exactly when the request names its origin host and realm, does not require
    in-band security, and advertises at least one accounting, authentication, vendor-specific or
    relay application the local dictionary supports with the same type. -/
theorem C11_accept_iff (appOK : Nat → Nat → Bool) (as : List AVP) :
    (∃ v, cerParse appOK as = .ok v) ↔ accept appOK as = true := by
  have h := cerParse_spec appOK as
  cases hc : cerParse appOK as <;> simp_all

/-- on acceptance the peer's identity and the shared application ids - at least one - become
    the connection's metadata -/
theorem C11_accept_meta (appOK : Nat → Nat → Bool) (as : List AVP) (v : CERView)
    (h : cerParse appOK as = .ok v) :
    v.host = strField C.originHost as ∧ v.realm = strField C.originRealm as ∧ v.ids ≠ [] ∧
    v.ids = (appParse appOK (allOf C.acctApp as) (allOf C.authApp as) (allOf C.vsa as)).2 := by
  have hs := cerParse_spec appOK as
  rw [h] at hs
  obtain ⟨_, hne, rfl⟩ := hs
  exact ⟨rfl, rfl, hne, rfl⟩

/-- In every other case the failure Result-Code names a cause that applies: 5017 only when
    in-band security is required, 5010 only when there is no common application, 5012 only when
    origin host or realm is missing or an AVP of the exchange is malformed. -/
theorem C11_reject_code (appOK : Nat → Nat → Bool) (as : List AVP) (e : PErr)
    (h : cerParse appOK as = .error e) : applies appOK (rcOf e) as = true := by
  have hs := cerParse_spec appOK as
  rw [h] at hs
  exact hs.2

/-- Every CEA - success or failure - carries the identity of the local settings, the given host
    addresses, the request's hop-by-hop and end-to-end identifiers (zero included), command and
    application; a success CEA starts with Result-Code 2001 and advertises every locally
    supported application; a failure CEA has the E bit and the Result-Code of its cause. -/
theorem C11_cea_fields (cfg : Settings) (apps : List SApp) (ips : List Bytes) (req : Header) (v : CERView) (e : PErr)
    (hf : req.flags < 256) :
    (successCEA cfg apps ips req v).hdr.hbh = req.hbh ∧ (successCEA cfg apps ips req v).hdr.e2e = req.e2e ∧
    (successCEA cfg apps ips req v).hdr.cmd = req.cmd ∧ (successCEA cfg apps ips req v).hdr.app = req.app ∧
    (successCEA cfg apps ips req v).avps =
      [newAVP C.resultCode 64 0 (.fix T.u32 2001)] ++ ceaCommon cfg ips v.osid ++ appAVPs apps ++ fw cfg ∧
    (errorCEA cfg ips req v.osid e).hdr.hbh = req.hbh ∧ (errorCEA cfg ips req v.osid e).hdr.e2e = req.e2e ∧
    (errorCEA cfg ips req v.osid e).hdr.flags / 32 % 2 = 1 ∧
    (errorCEA cfg ips req v.osid e).avps =
      [newAVP C.resultCode 64 0 (.fix T.u32 (rcOf e))] ++ ceaCommon cfg ips v.osid ++ fw cfg := by
  have a := successCEA_fields cfg apps ips req v
  have b := errorCEA_fields cfg ips req v.osid e
  exact ⟨a.hbh, a.e2e, a.cmd, a.app, a.avps, b.hbh, b.e2e, b.flags ▸ setE req.flags, b.avps⟩

/-- the identity AVPs of every CEA are the settings', and every host address is carried -/
theorem C11_cea_identity (cfg : Settings) (ips : List Bytes) (osid : Option AVP) :
    (ceaCommon cfg ips osid).take 2 =
      [newAVP C.originHost 64 0 (.str T.ident cfg.originHost), newAVP C.originRealm 64 0 (.str T.ident cfg.originRealm)] ∧
    (∀ ip ∈ ips, newAVP C.hostIP 64 0 (.addr ip) ∈ ceaCommon cfg ips osid) := by
  refine ⟨rfl, fun ip hip => ?_⟩
  simp only [ceaCommon, List.mem_append, List.mem_map]
  exact .inl (.inl (.inr ⟨ip, hip, rfl⟩))

/-- Host-IP-Address when none is configured (`getLocalAddresses`): for every local endpoint -
    single or multi-homed, IPv4 or IPv6, any mixture of parseable and unparseable entries - what
    is advertised are addresses of that endpoint; if the endpoint has any parseable address at all
    the CEA carries at least one Host-IP-Address; loopback addresses only as a last resort. -/
theorem C11_cea_local_address (cfg : Settings) (osid : Option AVP) (hosts : List HostEntry) :
    (∀ as, getLocalAddresses true hosts = some as →
      (∀ a ∈ as, HostEntry.ip a ∈ hosts) ∧
      (∀ a ∈ as, newAVP C.hostIP 64 0 (.addr a) ∈ ceaCommon cfg as osid) ∧
      (∀ a ∈ as, isLoopbackIP a = true → ∀ b, HostEntry.ip b ∈ hosts → isLoopbackIP b = true)) ∧
    (∀ b, HostEntry.ip b ∈ hosts → ∃ as, getLocalAddresses true hosts = some as ∧ as ≠ []) :=
  ⟨fun as h => ⟨localAddrs_sound hosts as h, (C11_cea_identity cfg as osid).2,
      fun a => localAddrs_loopback_last_resort hosts as a h⟩,
    localAddrs_nonempty hosts⟩

/-- non-vacuity: the IPv6 endpoint of finding F21, and a multi-homed mixed one -/
example : getLocalAddresses true [.ip [0x20,0x01,0x0d,0xb8,0,0,0,0,0,0,0,0,0,0,0,7]] =
      some [[0x20,0x01,0x0d,0xb8,0,0,0,0,0,0,0,0,0,0,0,7]] ∧
    getLocalAddresses true [.ip [127,0,0,1], .unparseable, .ip [10,0,0,3]] = some [[10,0,0,3]] ∧
    getLocalAddresses true [.ip [127,0,0,1], .unparseable] = some [[127,0,0,1]] := by decide

theorem C11_gen : Gen.rcSuccess = 2001 ∧ Gen.rcNoCommonApplication = 5010 ∧ Gen.rcNoCommonSecurity = 5017 ∧
    Gen.rcUnableToComply = 5012 ∧ Gen.relayAppId = 4294967295 ∧ Gen.cmdCapabilitiesExchange = 257 ∧
    -- `handleCER` (`SMState.cer`): look for existing metadata, parse, on an error answer with the
    -- error CEA, report, close; else the success CEA and the metadata - nothing else consulted
    -- (not the transport, not a pool)
    Gen.handleCERCalls = ["c.Context", "smpeer.FromContext", "new", "cer.Parse", "errorCEA", "sm.Error", "c.Close",
      "successCEA", "sm.Error", "smpeer.FromCER", "c.SetContext", "smpeer.NewContext"] :=
  ⟨rfl, rfl, rfl, rfl, rfl, rfl, rfl⟩

/-- non-vacuity: a CER with a supported auth application is accepted; one whose only application
    AVP names an unsupported id is rejected with 5010 -/
example :
    let appOK : Nat → Nat → Bool := fun id typ => id = 4 ∧ typ = 1
    let base : List AVP := [.mk 264 64 0 0 (.str 2 [112]), .mk 296 64 0 0 (.str 2 [113])]
    accept appOK (base ++ [.mk 258 64 12 0 (.fix 16 4)]) = true ∧
    accept appOK (base ++ [.mk 258 64 12 0 (.fix 16 999)]) = false ∧
    applies appOK 5010 (base ++ [.mk 258 64 12 0 (.fix 16 999)]) = true := by decide

end DV.Props.C11
