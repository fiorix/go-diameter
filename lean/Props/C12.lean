import Model
import Spec
import Gen
import Proofs.Client
import Proofs.ConnWrite
/-!
  C12 — client handshake: bounded retransmission, definite outcome, stable afterwards.
  `Model.Client.HS`: the handshake goroutine (write CER; select {errc, RetransmitInterval};
  MaxRetransmits+1 rounds; Close on every failure path), the connection's reader dispatching
  CEAs to `handleCEA` (send on / close of `errc`), the transport. Time is logical: `timer` is
  the `time.After` branch being taken, so consecutive CERs are separated by at least one
  RetransmitInterval by construction of `select`. All theorems: every event sequence, any length.
-/
namespace DV.Props.C12
open DV

/-- the handshake as the current source configures it: capacity of `errc` and the once-only CEA
    handler are regenerated facts -/
def cur (R : Nat) (wd : Bool) : HS := HS.init R Gen.capErrc Gen.ceaHandlerOnce wd

theorem cur_inv {R : Nat} {wd : Bool} {es : List HEv} {s : HS} (h : (cur R wd).run es = some s) : HInv R s :=
  HInv_reach (Nat.le_refl 1) h

/-- (i) At most MaxRetransmits+1 CERs are ever written, and between two consecutive writes a
    retransmission timer expired: #CER ≤ #expiries + 1. -/
theorem C12_bound (R : Nat) (wd : Bool) (es : List HEv) (s : HS) (h : (cur R wd).run es = some s) :
    s.cers ≤ R + 1 ∧ s.cers ≤ s.timers + 1 :=
  have inv := cur_inv h
  inv.budget ▸ inv.loop.cersLe

/-- (iii) Definite outcome. The dial returns a connection only if a success CEA was processed
    (peer metadata stored), and then the library has not closed the transport; every other
    outcome - error reported by the CEA handler, write failure, timeout - has closed it. -/
theorem C12_outcome (R : Nat) (wd : Bool) (es : List HEv) (s : HS) (h : (cur R wd).run es = some s) :
    (s.pc = .done .ok → s.hasMeta = true ∧ s.libClosed = false) ∧
    (∀ o, s.pc = .done o → o ≠ .ok → s.libClosed = true) ∧
    (s.libClosed = true → ∃ o, s.pc = .done o ∧ o ≠ .ok) := by
  have inv := cur_inv h
  have lc := inv.loop.libClosed
  exact ⟨inv.ok, fun o hp ho => lc.2 ⟨o, hp, ho⟩, lc.1⟩

/-- the timeout outcome only after all MaxRetransmits+1 timers expired -/
theorem C12_timeout_last (s s' : HS) (h : s.step .timer = some s') (ht : s'.pc = .done .timeout) :
    s.round + 1 = s.R + 1 ∨ s.R + 1 ≤ s.round := by
  dsimp only [HS.step] at h
  obtain ⟨-, h⟩ := Option.ite_none_right_eq_some.mp h
  split at h <;> cases h
  · cases ht
  next hr => exact (Nat.eq_or_lt_of_le (Nat.le_of_not_lt hr)).imp Eq.symm Nat.le_of_lt_succ

/-- (iv) Stable afterwards: once the dial has returned a connection, whatever the peer sends
    next - duplicates of the success CEA, late failing CEAs, anything - the outcome stays, the
    library never closes the transport, the metadata stays, nothing panics. -/
theorem C12_stable (R : Nat) (wd : Bool) (es es' : List HEv) (s s' : HS) (h : (cur R wd).run es = some s)
    (hok : s.pc = .done .ok) (h' : s.run es' = some s') :
    s'.pc = .done .ok ∧ s'.hasMeta = true ∧ s'.libClosed = false ∧ s'.panics = 0 := by
  obtain ⟨inv, hp⟩ := HS.run_inv (P := fun t => HInv R t ∧ t.pc = .done .ok)
    (fun a hs => ⟨HInv_step a.1 hs, HS.step_done a.2 hs⟩) es' s s' ⟨cur_inv h, hok⟩ h'
  exact ⟨hp, (inv.ok hp).1, (inv.ok hp).2, inv.noPanic⟩

/-- (v) In no reachable state is the reader blocked on `errc`, and no channel operation panics
    (no close of a closed channel, no send on a closed channel). -/
theorem C12_noblock (R : Nat) (wd : Bool) (es : List HEv) (s : HS) (h : (cur R wd).run es = some s) :
    s.pending = false ∧ s.panics = 0 :=
  have inv := cur_inv h
  ⟨inv.noBlock, inv.noPanic⟩

/-- The model distinguishes: with an unbuffered `errc` and a CEA handler that runs every time
    (the code before the repair 1626f84), a duplicate success CEA after the handshake closes
    `errc` a second time - a panic that `conn.serve` turns into a closed connection. -/
theorem C12_duplicate_cea_counterexample :
    ((HS.init 0 0 false false).run [.writeOk, .cea .success, .takeErrc, .cea .success]).map
      (fun s => (s.pc, s.panics, s.readerGone)) = some (.done .ok, 1, true) := by decide

/-- ... and a failing CEA whose handler reaches its (unbuffered) send just as the last timer
    branch is taken leaves the reader blocked forever -/
theorem C12_late_failure_counterexample :
    ((HS.init 0 0 false false).run [.writeOk, .cea .failing, .timer]).map
      (fun s => (s.pc, s.pending)) = some (.done .timeout, true) := by decide

/-- (ii) The CER carries the configured identity, every host address, every Supported-Vendor-Id,
    Auth / Acct / Vendor-Specific application AVP it was given, and Inband-Security-Id 0. -/
theorem C12_cer (cfg : Settings) (ips : List Bytes) (apps : ClientApps) :
    newAVP C.originHost 64 0 (.str T.ident cfg.originHost) ∈ makeCER cfg ips apps ∧
    newAVP C.originRealm 64 0 (.str T.ident cfg.originRealm) ∈ makeCER cfg ips apps ∧
    (∀ ip ∈ ips, newAVP C.hostIP 64 0 (.addr ip) ∈ makeCER cfg ips apps) ∧
    (∀ a ∈ apps.supportedVendor ++ apps.auth ++ apps.acct ++ apps.vsa, a ∈ makeCER cfg ips apps) ∧
    newAVP C.inband 64 0 (.fix T.u32 0) ∈ makeCER cfg ips apps := by
  -- `makeCER` is ten segments appended from the left: a member of one of them is reached by an `inr` under `inl`s
  simp only [makeCER, List.mem_append, List.mem_map]
  refine ⟨?_, ?_, fun ip hip => ?_, fun a ha => ?_, ?_⟩
  · exact .inl (.inl (.inl (.inl (.inl (.inl (.inl (.inl (.inl List.mem_cons_self))))))))
  · exact .inl (.inl (.inl (.inl (.inl (.inl (.inl (.inl (.inl (List.mem_cons_of_mem _ List.mem_cons_self)))))))))
  · exact .inl (.inl (.inl (.inl (.inl (.inl (.inl (.inl (.inr ⟨ip, hip, rfl⟩))))))))
  · rcases ha with ((h | h) | h) | h
    · exact .inl (.inl (.inl (.inl (.inl (.inr h)))))
    · exact .inl (.inl (.inl (.inl (.inr h))))
    · exact .inl (.inl (.inr h))
    · exact .inl (.inr h)
  · exact .inl (.inl (.inl (.inr List.mem_cons_self)))

/-- a check that answers with an error was passed when the result is `ok` -/
theorem Except.ok_of_ite {ε α : Type} {c : Prop} [Decidable c] {e : ε} {x : Except ε α} {a : α}
    (h : (if c then .error e else x) = .ok a) : ¬ c ∧ x = .ok a := by
  by_cases hc : c
  · rw [if_pos hc] at h; cases h
  · rw [if_neg hc] at h; exact ⟨hc, h⟩

/-- the CEA decides: accepted exactly when Result-Code is 2001, Origin-Host and Origin-Realm are
    present and an application is shared (the same application check as C11) -/
theorem C12_cea_accept (appOK : Nat → Nat → Bool) (as : List AVP) (m : Meta) (h : ceaParse appOK as = .ok m) :
    u32Field C.resultCode as = 2001 ∧ m.host = strField C.originHost as ∧ m.host.isEmpty = false ∧
    m.realm = strField C.originRealm as ∧ m.realm.isEmpty = false ∧
    (appParse appOK (allOf C.acctApp as) (allOf C.authApp as) (allOf C.vsa as)).1 = none := by
  -- the four checks made before the applications are looked at
  obtain ⟨-, h1⟩ := Except.ok_of_ite h
  obtain ⟨hh, h2⟩ := Except.ok_of_ite h1
  obtain ⟨hr, h3⟩ := Except.ok_of_ite h2
  obtain ⟨hrc, h4⟩ := Except.ok_of_ite h3
  clear h h1 h2 h3
  split at h4 <;> cases h4
  next ids hp => exact ⟨Decidable.not_not.1 hrc, rfl, Bool.eq_false_iff.2 hh, rfl, Bool.eq_false_iff.2 hr, by rw [hp]⟩

/-- Several handshakes through one `sm.Client` (concurrent dials, or a dial while other
    connections live) share the state machine's CEA handler; with the handler finding the waiting
    handshake in the context of the connection the CEA arrived on (`Gen.handshakeAnswerHandlers`),
    each handshake is credited exactly the CEAs of its own connection, in every interleaving - so
    the single-connection theorems above hold for each of them. -/
theorem C12_answers_by_connection (es : List ShareEv) (s : ShareState) (k : Nat) (hk : k < s.acks.length) :
    (s.run true es).acks.getD k 0 = s.acks.getD k 0 + answersOn k es :=
  (share_byConn es s k hk).1

/-- structural facts regenerated from client.go / cea.go -/
theorem C12_gen : Gen.handshakeAnswerHandlers =
      ["\"CEA\"=handleCEA(cli.Handler,nil)", "\"DWA\"=handshakeOK(handleDWA(cli.Handler,nil))"] ∧
    Gen.capErrc = 1 ∧ Gen.ceaHandlerOnce = true ∧
    Gen.handshakeMakeCER = ([], ["cli.makeCER(hostAddresses)"]) ∧ Gen.handshakeWrites = ["m.WriteTo(c)"] ∧
    Gen.handshakeCloses = (2, 2) ∧ Gen.handshakeLoopCond = "(i<((int(cli.MaxRetransmits)+1)))" ∧
    -- the handshake waits RetransmitInterval per transmission, and the state machine package sets
    -- no deadline on the transport (one left behind would outlive the handshake)
    Gen.clientTimers.filter (fun t => t.1 = "handshake") = [("handshake", "cli.RetransmitInterval")] ∧
    Gen.smDeadlineCalls = [] ∧
    (Gen.channelSends.filter (fun r => r.2.2 = "blocking")) = [("diam/sm:handleCEA", "errc", "blocking")] :=
  ⟨rfl, rfl, rfl, rfl, rfl, rfl, rfl, rfl, rfl, rfl⟩

/-- non-vacuity: budget 2; silence, silence, then a success CEA: three CERs, two expiries, ok -/
example : ((cur 2 false).run [.writeOk, .timer, .writeOk, .timer, .writeOk, .cea .success, .takeErrc, .cea .failing, .cea .success]).map
    (fun s => (s.pc, s.cers, s.timers, s.hasMeta, s.libClosed, s.panics)) = some (.done .ok, 3, 2, true, false, 0) := by
  decide

end DV.Props.C12
