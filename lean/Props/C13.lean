import Model
import Spec
import Gen
import Proofs.Client
import Proofs.SMServer
import Proofs.ConnWrite
/-!
  C13 — the watchdog detects a silent peer and spares a responsive one.
  `Model.Client.WD`: the watchdog goroutine (`select {disconnect, WatchdogInterval}`), `dwr()`
  (drain, then write DWR; `select {dwac, RetransmitInterval}`; MaxRetransmits+1 rounds; Close),
  the reader handling DWAs (`handleDWA`: non-blocking send on `dwac`). `rtTimer` - the
  retransmission timer branch - is enabled only when no ack is waiting: an answer that is there
  before the timer fires is taken. Server side: `handleDWR` of `Model.SM`.
-/
namespace DV.Props.C13
open DV

/-- the watchdog as the current source configures it -/
def cur (R : Nat) : WD := WD.init R Gen.capDwac Gen.dwrDrainsFirst

/-- what is known of every state the watchdog reaches: the invariant, and the configuration it started with -/
theorem cur_reach {R : Nat} {es : List WdEv} {s : WD} (h : (cur R).run es = some s) :
    WdInv s ∧ s.R = R ∧ s.cap = 1 ∧ s.drain = true :=
  WdInv_reach (Nat.le_refl 1) h

/-- (i) one `dwr()` call writes at most MaxRetransmits+1 DWRs (all the same message: `makeDWR`
    is called once, before the loop - `C13_gen`) -/
theorem C13_bound (R : Nat) (es : List WdEv) (s : WD) (h : (cur R).run es = some s) : s.cycleDwrs ≤ R + 1 := by
  have ⟨inv, hR, _⟩ := cur_reach h
  exact hR ▸ inv.le

/-- (ii) A responsive peer is spared: an answer is never lost - whenever a success DWA has been
    handled since the current `dwr()` call wrote its first DWR (however early: between the write
    returning and `dwr()` reaching its select included), the ack is waiting in `dwac` when
    `dwr()` selects, so the retransmission timer branch is not taken; -/
theorem C13_ack_not_lost (R : Nat) (es : List WdEv) (s : WD) (h : (cur R).run es = some s) (i : Nat)
    (hp : s.pc = .selecting i) (ha : s.answered = true) :
    (s.step .ack).isSome = true ∧ s.step .rtTimer = none := by
  have hpos : s.dwac > 0 := (cur_reach h).1.ans ha ⟨i, .inr hp⟩
  simp [WD.step, hp, hpos]

/-- ... and the watchdog closes the connection only at the end of a `dwr()` call in which all
    MaxRetransmits+1 DWRs were written, MaxRetransmits+1 retransmission timers expired and no
    success answer was handled after its first DWR. -/
theorem C13_responsive (R : Nat) (es : List WdEv) (s : WD) (h : (cur R).run es = some s) (hc : s.closedByWD = true) :
    s.cycleDwrs = R + 1 ∧ s.cycleTimers = R + 1 ∧ s.answeredAtClose = false := by
  have ⟨inv, hR, _⟩ := cur_reach h
  have := inv.closed hc
  rw [hR] at this
  exact ⟨this.1, this.2.1, this.2.2.1⟩

/-- (iii) A silent peer is detected: from the start of a `dwr()` call, if no success DWA arrives,
    exactly MaxRetransmits+1 rounds of (DWR, timer expiry) follow - i.e. MaxRetransmits
    retransmissions - and the last expiry closes the connection. -/
theorem C13_silent (R : Nat) (s : WD) (hp : s.pc = .writing 0) (hd : s.dwac = 0) (hg : s.gone = false) (hR : s.R = R) :
    ∃ s', s.run (silentRounds (R + 1)) = some s' ∧ s'.closedByWD = true ∧
      s'.cycleDwrs = s.cycleDwrs + (R + 1) ∧ s'.cycleTimers = s.cycleTimers + (R + 1) := by
  obtain ⟨s', h1, h2, h3, h4, _⟩ := silent_run (R + 1) s 0 hp hd hg (by rw [hR, Nat.zero_add]) (Nat.succ_pos R)
  exact ⟨s', h1, h2, h3, h4⟩

/-- a DWA with a failure result code counts as no answer: it changes nothing -/
theorem C13_failure_dwa_ignored (s : WD) (hg : s.gone = false) : s.step .dwaFail = some s := by
  simp [WD.step, hg]

/-- every `dwr()` call starts without a left-over ack: the channel holds at most one value
    (its regenerated capacity) and `dwr()` discards one before its first DWR - so an answer that
    was late for the previous cycle, or one of several answers to the same DWR, cannot be mistaken
    for an answer to a request that has not been sent yet -/
theorem C13_drained (R : Nat) (es : List WdEv) (s s' : WD) (h : (cur R).run es = some s)
    (hs : s.step .wdTimer = some s') : s'.dwac = 0 ∧ s'.pc = .writing 0 ∧ s'.answered = false := by
  have ⟨inv, _, hcap, hdr⟩ := cur_reach h
  simp only [WD.step, hdr, if_true] at hs
  split at hs <;> cases hs
  exact ⟨Nat.sub_eq_zero_of_le (hcap ▸ inv.dwacLe), rfl, rfl⟩

/-- The model distinguishes: with an unbuffered `dwac` (the code before the repair 0b4f180) a
    success DWA handled before `dwr()` reaches its select is dropped, and with MaxRetransmits 0
    a peer that answered is disconnected. -/
theorem C13_lost_ack_counterexample :
    ((WD.init 0 0 false).run [.wdTimer, .writeOk, .dwaOk, .rtTimer]).map
      (fun s => (s.closedByWD, s.answeredAtClose)) = some (true, true) := by decide

/-- (iv) server side: a DWR naming Origin-Host and Origin-Realm from a peer that completed the
    handshake is answered with Result-Code 2001, the local identity (with the configured
    Origin-State-Id) and the request's identifiers, application id and command (the answer header
    mirrors the request) -/
theorem C13_dwa (cfg : Settings) (req : Header) :
    (dwa cfg req).hdr.hbh = req.hbh ∧ (dwa cfg req).hdr.e2e = req.e2e ∧ (dwa cfg req).hdr.app = req.app ∧
    (dwa cfg req).hdr.cmd = req.cmd ∧
    (dwa cfg req).avps = [newAVP C.resultCode 64 0 (.fix T.u32 2001),
      newAVP C.originHost 64 0 (.str T.ident cfg.originHost), newAVP C.originRealm 64 0 (.str T.ident cfg.originRealm)]
      ++ (if cfg.originStateId ≠ 0 then [newAVP C.originStateId 64 0 (.fix T.u32 cfg.originStateId)] else []) := by
  have a := dwa_fields cfg req
  exact ⟨a.hbh, a.e2e, a.app, a.cmd, a.avps⟩

/-- Several connections of one `sm.Client` share the state machine's mux and so its DWA handler.
    With the handler finding the watchdog in the context of the connection the answer arrived on
    (`Gen.handshakeAnswerHandlers`), every connection is credited exactly the answers that arrived
    on it - for every interleaving of handshakes and answers on any number of connections; the
    single-connection theorems above therefore apply to each of them. -/
theorem C13_answers_by_connection (es : List ShareEv) (s : ShareState) (k : Nat) (hk : k < s.acks.length) :
    (s.run true es).acks.getD k 0 = s.acks.getD k 0 + answersOn k es :=
  (share_byConn es s k hk).1

/-- ... whereas handlers bound to the channels of the latest handshake (the source before the
    repair 5fd1923) credit the first connection's answer to the second: a peer that answered is
    taken for silent -/
theorem C13_latest_handshake_counterexample :
    (({} : ShareState).run false [.handshake, .handshake, .answer 0]).acks = [0, 1] := by decide

/-- structural facts regenerated from client.go / dwa.go -/
theorem C13_gen : Gen.handshakeAnswerHandlers =
      ["\"CEA\"=handleCEA(cli.Handler,nil)", "\"DWA\"=handshakeOK(handleDWA(cli.Handler,nil))"] ∧
    Gen.capDwac = 1 ∧ Gen.dwrDrainsFirst = true ∧ Gen.dwaSendNonBlocking = true ∧
    Gen.dwrMakeDWR = ([], ["cli.makeDWR(osid)"]) ∧ Gen.dwrWrites = ["m.WriteToStream(c,cli.WatchdogStream)"] ∧
    Gen.dwrCloses = (0, 1) ∧ Gen.dwrLoopCond = "(i<((int(cli.MaxRetransmits)+1)))" ∧
    -- one watchdog cycle per WatchdogInterval; each DWR waits RetransmitInterval for its answer
    Gen.clientTimers.filter (fun t => t.1 ≠ "handshake") =
      [("watchdog", "cli.WatchdogInterval"), ("dwr", "cli.RetransmitInterval")] ∧
    -- `handleDWR` parses, answers from the request, writes; `handleDWA` parses and acknowledges to
    -- the connection's own state: no further condition on the message (`dwa`, `WD.step`)
    Gen.handleDWRCalls = ["new", "dwr.Parse", "sm.Error", "m.Answer", "a.NewAVP", "a.NewAVP", "datatype.Unsigned32",
      "a.NewAVP", "a.WriteTo", "sm.Error"] ∧
    Gen.handleDWACalls = ["new", "dwa.Parse", "sm.Error", "clientConnStateOf"] :=
  ⟨rfl, rfl, rfl, rfl, rfl, rfl, rfl, rfl, rfl, rfl, rfl⟩

/-- non-vacuity: budget 1; first cycle answered early (before the select), second cycle
    answered on the retransmission, third cycle silent: closed after two DWRs -/
example : ((cur 1).run [.wdTimer, .writeOk, .dwaOk, .ack, .wdTimer, .writeOk, .rtTimer, .writeOk, .dwaOkWaiting, .ack,
      .wdTimer, .writeOk, .dwaFail, .rtTimer, .writeOk, .rtTimer]).map
    (fun s => (s.closedByWD, s.cycles, s.cycleDwrs, s.answeredAtClose)) = some (true, 3, 2, false) := by
  decide

end DV.Props.C13
