import Model
import Spec
import Gen
import Proofs.ConnData
import Proofs.CloseLock
/-!
  C14 — CloseNotify fires exactly once when, and only when, the connection is gone.
  `Model.Conn` is the labelled transition system of one connection: transport (fragments, peer
  EOF, read error, read timeout, local Close), the reader loop over bufio and the
  `liveSwitchReader`, the close-notifier pipe and its copy goroutine, `closeNotifyc` /
  `clientGone`. Every theorem below is about EVERY event sequence from a fresh connection -
  every ordering of requests, deliveries, faults, handler returns and goroutine steps, of any
  length (induction over the event list).
-/
namespace DV.Props.C14
open DV DV.Spec

/-- Safety: a channel is closed at most once (a second `close` would be a Go panic), and the
    counter agrees with the channel state. -/
theorem C14_once (d : DictFn) (c : Bool) (es : List CEv) (s : CN) (h : CN.run d { coal := c } es = some s) :
    s.closes ≤ 1 ∧ (s.closes = 1 ↔ s.chan = .closed) :=
  flag_count (Inv_reach d c es s h).1.closes

/-- Safety: the channel is closed only when the connection is gone - the peer closed, the
    transport failed or timed out, it was closed locally, or the reader loop has ended. -/
theorem C14_only_when_gone (d : DictFn) (c : Bool) (es : List CEv) (s : CN)
    (h : CN.run d { coal := c } es = some s) (hc : s.chan = .closed) : s.terminated = true := by
  have inv := (Inv_reach d c es s h).1
  exact inv.goneTerm (inv.chanGone hc)

/-- Quiescence (the safety form of "fires"): whenever the connection is gone, no goroutine of the
    library can move and no handler is running, then the reader loop has ended, a requested
    channel is closed (requested before or after the end), and the copy goroutine was never
    started or has ended - nothing is left blocked. -/
theorem C14_quiet (d : DictFn) (c : Bool) (es : List CEv) (s : CN) (h : CN.run d { coal := c } es = some s)
    (hq : s.quiescent d = true) (ht : s.terminated = true) (hh : s.reader ≠ .inHandler) :
    s.chan ≠ .open ∧ s.reader = .exited ∧ (s.copier = .notStarted ∨ s.copier = .exited) := by
  have r := CInv_quiet d s (Inv_reach d c es s h).1 hq ht hh
  exact ⟨r.1, r.2.1, r.2.2.2⟩

/-- a channel requested after the connection has terminated is returned closed -/
theorem C14_late_request (d : DictFn) (c : Bool) (es : List CEv) (s s' : CN)
    (h : CN.run d { coal := c } es = some s) (hg : s.reader = .exited) (hn : s.chan = .none)
    (hs : s.step d .requestCN = some s') : s'.chan = .closed :=
  (Inv_reach d c es s h).1.late_request hg hn hs

/-- Transparency: requesting the channel (which re-plumbs the reader through a pipe and a copy
    goroutine) never loses, duplicates or reorders a message: in every reachable state the
    messages handed to handlers are exactly the first messages of the reference split (by
    declared length, C05) of everything the peer delivered, and the split continues in the bytes
    still in flight (bufio ++ pipe ++ transport). -/
theorem C14_transparent (d : DictFn) (c : Bool) (es : List CEv) (s : CN) (h : CN.run d { coal := c } es = some s) :
    ∃ rest, s.sent = s.consumed ++ rest ∧ (s.reader ≠ .exited → rest = s.rbuf ++ s.pipeData ++ s.inbox.flatten) ∧
      ∀ (fin : Fin) (fuel : Nat),
        (split d (s.handed.length + fuel) s.sent fin).1 = s.handed.map MsgRes.msg ++ (split d fuel rest fin).1 :=
  (Inv_reach d c es s h).2.split_handed

/-- ... and nothing is held back: a quiescent live connection with no handler running has
    handed over every complete message delivered so far. -/
theorem C14_nothing_stuck (d : DictFn) (c : Bool) (es : List CEv) (s : CN) (h : CN.run d { coal := c } es = some s)
    (hq : s.quiescent d = true) (ht : s.terminated = false) (hh : s.reader ≠ .inHandler) :
    s.inbox = [] ∧ s.pipeData = [] ∧ nextMsg d s.rbuf = .need :=
  CInv_nothing_stuck d s (Inv_reach d c es s h).1 hq ht hh

/-- The same over a multistream (SCTP) association, where `closeNotify` installs the association's
    error handler instead of the pipe and its copy goroutine (`Gen.closeNotifyMultiCalls`; the
    bytes are those of the stream in use - demultiplexing is C19's subject): for every event
    sequence the channel is closed at most once and only when the connection is gone; at rest
    after the end it is closed and the reader has ended; a late request is answered with a closed
    channel; and requesting it changes nothing about what the handlers are given. -/
theorem C14_multistream (d : DictFn) (c : Bool) (es : List CEv) (s : CN)
    (h : CN.run d { multi := true, coal := c } es = some s) :
    (s.closes ≤ 1 ∧ (s.closes = 1 ↔ s.chan = .closed)) ∧
    (s.chan = .closed → s.terminated = true) ∧
    (s.quiescent d = true → s.terminated = true → s.reader ≠ .inHandler → s.chan ≠ .open ∧ s.reader = .exited) ∧
    (∀ s', s.reader = .exited → s.chan = .none → s.step d .requestCN = some s' → s'.chan = .closed) ∧
    (∃ rest, s.sent = s.consumed ++ rest ∧
      ∀ (fin : Fin) (fuel : Nat),
        (split d (s.handed.length + fuel) s.sent fin).1 = s.handed.map MsgRes.msg ++ (split d fuel rest fin).1) := by
  obtain ⟨inv, dinv⟩ := Inv_reachable d true c es s h
  obtain ⟨r, h1, -, h2⟩ := dinv.split_handed
  exact ⟨flag_count inv.closes, fun hc => inv.goneTerm (inv.chanGone hc),
    fun hq ht hh => have q := CInv_quiet d s inv hq ht hh; ⟨q.1, q.2.1⟩,
    fun s' => inv.late_request, r, h1, h2⟩

/-- (a writer stuck in the transport) closing takes no lock (`C14_close_gen`), so in EVERY state
    reached by any interleaving of a writer, a peer that stops reading and a close request, a
    close that was asked for and has not happened yet can happen at once: nothing it waits for.
    The connection therefore does get "gone", and `C14_once` / `C14_only_when_gone` apply. -/
theorem C14_close_never_waits (es : List CLEv) (s : CLState) (_h : CLState.run false {} es = some s)
    (hr : s.closeRequested = true) (hc : s.closed = false) :
    ∃ s', s.step false .closeDo = some s' ∧ s'.closed = true :=
  CL_close_enabled s hr hc

/-- and once the transport is closed, a write that was stuck in it cannot complete, fails, and
    leaves the write mutex free -/
theorem C14_stuck_writer_released (s : CLState) (hw : s.writer = .inTransport) (hc : s.closed = true) :
    s.step false .xferDone = none ∧
    ∃ s', s.step false .writeFails = some s' ∧ s'.writer = .failed ∧ s'.lockHeld = false :=
  CL_writer_released s hw hc

/-- the variant in which closing first takes the write mutex: a writer enters the transport, the
    peer stops reading, Close is called - and no event other than "the peer stops reading" (which
    changes nothing) is enabled ever again: the connection is never closed, the notification
    never fires, the writer never returns -/
theorem C14_close_behind_write_lock_counterexample :
    ∃ s, CLState.run true {} [.write, .acquire, .peerStops, .closeCall] = some s ∧
      s.closeRequested = true ∧ s.closed = false ∧ s.writer = .inTransport ∧
      ∀ e ∈ CLEv.all, s.step true e = none ∨ s.step true e = some s :=
  ⟨_, rfl, rfl, rfl, rfl, by decide⟩

/-- regenerated from server.go: `response.Close` and the deferred function of `conn.serve` reach
    `rwc.Close()` without acquiring any mutex on the way (calls into functions of the same file
    followed) -/
theorem C14_close_gen : Gen.closePaths = [("response.Close", [], true), ("conn.serve.defer1", [], true)] :=
  rfl

/-- non-vacuity: the same schedule with the source's parameter ends closed, writer failed, mutex free -/
example : ((CLState.run false {} [.write, .acquire, .peerStops, .closeCall, .closeDo, .writeFails]).map
    (fun s => (s.closed, s.writer, s.lockHeld))) = some (true, .failed, false) := by decide

/-- structural facts the model stands on, regenerated from server.go: the reader loop's deferred
    exit path closes the transport and notifies; the handler is called synchronously -/
theorem C14_gen : Gen.serveDeferClose = true ∧ Gen.serveDeferNotify = true ∧ Gen.serveDispatchSync = true ∧
    Gen.closeNotifyMultiCalls = ["SetErrorHandler", "Close", "notifyClientGone"] :=
  ⟨rfl, rfl, rfl, rfl⟩

/-- non-vacuity: CloseNotify requested while the reader is blocked in Read, then the peer
    closes: the channel is closed, reader and copier have exited (the schedule F15 failed on) -/
example :
    let d : DictFn := { cmdRules := fun _ _ => some (1, 1), avpType := fun _ _ _ => 0 }
    ((CN.run d {} [.readerStep, .requestCN, .peerEof, .readerStep]).map
      (fun s => (s.chan, s.reader, s.copier, s.closes, s.quiescent d, s.terminated))) =
      some (.closed, .exited, .notStarted, 1, true, true) := by
  decide

/-- non-vacuity (multistream): requested while the reader is blocked, then a read error -/
example :
    let d : DictFn := { cmdRules := fun _ _ => some (1, 1), avpType := fun _ _ _ => 0 }
    ((CN.run d { multi := true } [.readerStep, .requestCN, .readErr, .readerStep]).map
      (fun s => (s.chan, s.reader, s.copier, s.closes, s.quiescent d, s.terminated))) =
      some (.closed, .exited, .notStarted, 1, true, true) := by
  decide

end DV.Props.C14
