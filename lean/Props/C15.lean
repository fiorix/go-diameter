import Model
import Proofs.Pool
import Proofs.CloseLock
import Spec
import Gen
import Proofs.ConnData
import Proofs.Shared
import Proofs.Listener
import Proofs.ConnWrite
/-!
  C15 — faults on one connection stay on that connection.
  Faults: a handler panic, undecodable input, an abrupt disconnect / read error on a
  connection; temporary and permanent `Accept` errors on the listener.
  Theorems about every event sequence of `Model.Conn` / `Model.Shared` / `Model.Listener`, and of the small
  models of the write path, the buffer pool and the close path (`Model.ConnWrite`, `Model.Pool`, `Model.CloseLock`).
-/
namespace DV.Props.C15
open DV DV.Spec

/-- A panicking handler ends its own connection: the transport is closed, the reader loop has
    ended, the close notification is given, no handler is left running, no error is reported. -/
theorem C15_panic_contained (d : DictFn) (c : Bool) (es : List CEv) (s s' : CN)
    (h : CN.run d { coal := c } es = some s) (hs : s.step d .handlerPanic = some s') :
    s'.closed = true ∧ s'.reader = .exited ∧ s'.gone = true ∧ s'.active = 0 ∧ s'.reports = s.reports := by
  cases (Option.ite_none_right_eq_some.1 hs).2
  simp

/-- Undecodable input (unknown command, declared length below 20, malformed AVPs) ends that
    connection and offers exactly one error report. -/
theorem C15_bad_input_contained (d : DictFn) (c : Bool) (es : List CEv) (s s' : CN)
    (h : CN.run d { coal := c } es = some s) (hr : s.reader = .idle) (hb : nextMsg d s.rbuf = .bad)
    (hs : s.step d .readerStep = some s') :
    s'.closed = true ∧ s'.reader = .exited ∧ s'.reports = s.reports + 1 ∧ s.reports = 0 := by
  simp only [CN.step, hr, hb] at hs
  cases hs
  simpa using (Inv_reach d c es s h).1.reports_zero (by simp [hr])

/-- at most one error report per connection, and only from a connection whose reader has ended:
    the (capacity-limited, non-blocking) report channel cannot be flooded by one peer -/
theorem C15_one_report (d : DictFn) (c : Bool) (es : List CEv) (s : CN) (h : CN.run d { coal := c } es = some s) :
    s.reports ≤ 1 ∧ (s.reports = 1 → s.reader = .exited) :=
  (Inv_reach d c es s h).1.rep

/-- After any fault - disconnect, read error, read timeout, local Close - once the goroutines have
    come to rest and the handler has returned, the connection is closed and its reader loop and
    copy goroutine have ended: nothing of the faulty connection is left behind. -/
theorem C15_fault_cleanup (d : DictFn) (c : Bool) (es : List CEv) (s : CN) (h : CN.run d { coal := c } es = some s)
    (hq : s.quiescent d = true) (ht : s.terminated = true) (hh : s.reader ≠ .inHandler) :
    s.closed = true ∧ s.reader = .exited ∧ s.active = 0 ∧ (s.copier = .notStarted ∨ s.copier = .exited) := by
  have inv := (Inv_reach d c es s h).1
  have r := CInv_quiet d s inv hq ht hh
  exact ⟨(inv.exGone r.2.1).2, r.2.1, inv.active_zero hh, r.2.2.2⟩

/-- Non-interference: whatever happens on other connections - panics, garbage, disconnects -
    connection `j` behaves as it would alone on its own events. -/
theorem C15_frame (d : DictFn) (df : Bool) (es : List (Nat × CEv)) (S S' : Sys) (j : Nat) (cj : CN)
    (h : S.run d df es = some S') (hj : S.conns[j]? = some cj) :
    ∃ cj', S'.conns[j]? = some cj' ∧ cj.run d (projEv j es) = some cj' :=
  Sys.frame d df es S S' j cj h hj

/-- The shared ServeMux is left usable: with the read lock released by `defer`
    (`Gen.muxServeRLockDeferred`), after ANY history the number of read locks held equals the
    number of connections currently inside a handler; in particular once no handler runs a
    registration (write lock) can proceed, however many handlers have panicked before. -/
theorem C15_mux_lock (d : DictFn) (cs : List Bool) (es : List (Nat × CEv)) (S : Sys)
    (h : (Sys.init cs).run d Gen.muxServeRLockDeferred es = some S) :
    S.rlocks = S.inHandlers ∧ (S.inHandlers = 0 → S.canRegister = true) := by
  -- `Sys.rlocks_run` is about `deferred = true`, which is what `Gen.muxServeRLockDeferred` unfolds to
  have := Sys.rlocks_run d es _ S (Sys.init_rlocks cs) h
  exact ⟨this, fun h0 => by simp [Sys.canRegister, this, h0]⟩

/-- ... whereas without `defer` one panicking handler would leave the read lock held forever
    (the model distinguishes the two: this is what the regenerated fact protects against) -/
theorem C15_mux_lock_needs_defer :
    let d : DictFn := { cmdRules := fun _ _ => some (1, 1), avpType := fun _ _ _ => 0 }
    let m1 : Bytes := [1,0,0,20,0x80,0,1,1, 0,0,0,0, 0,0,0,1, 0,0,0,1]
    (((Sys.init [false]).run d false [(0, .deliver m1), (0, .readerStep), (0, .readerStep), (0, .handlerPanic)]).map
      (fun S => (S.inHandlers, S.canRegister))) = some (0, false) := by
  decide

/-- The listener: through any number of temporary Accept errors and accepted connections the
    accept loop is still running with its listener open, has handed every accepted connection
    to its own serve goroutine, and every back-off sleep lies between the first delay and the cap. -/
theorem C15_listener (es : List LEv) (hp : LEv.acceptPerm ∉ es) :
    ∃ s, ({} : LS).run es = some s ∧ s.running = true ∧ s.lclosed = false ∧ s.spawned = countOk es ∧
      ∀ x ∈ s.slept, Gen.acceptBackoffFirstMs ≤ x ∧ x ≤ Gen.acceptBackoffMaxMs := by
  have h0 : LInv ({} : LS) 0 := ⟨rfl, rfl, rfl, Nat.zero_le _, nofun⟩
  obtain ⟨s, h1, h2, _⟩ := LS_run_noperm (by decide) (by decide) es {} 0 h0 (.inl rfl) hp
  exact ⟨s, h1, h2.running, h2.open_, h2.spawned.trans (Nat.zero_add _), h2.sleeps⟩

/-- only a permanent Accept error stops the server, and then the listener is closed -/
theorem C15_listener_perm (s : LS) (h : s.running = true) :
    s.step .acceptPerm = some { s with running := false, lclosed := true } :=
  LS.step_acceptPerm h

/-- Writes stay on their connection too: whatever is written through connection `k`'s `Conn` -
    by a handler or by the application, while it lives or long after a fault has ended it, with
    any number of connections opened and ended in between - reaches transport `k` or none; no
    transport ever holds a message written through another connection. (Each connection owns its
    buffered writer: `Gen.connBufferSources`.) -/
theorem C15_write_contained (es : List OwEv) (j : Nat) (c : OwConn)
    (h : ((({} : OwSys).run false es).1).conns[j]? = some c) : ∀ p ∈ c.wire, p.1 = j :=
  (WInvOwn_run es {} WInvOwn_init).own j c h

/-- ... and a write through a connection that has ended reaches nothing at all -/
theorem C15_late_write_fails (S : OwSys) (h : WInvOwn S) (k id : Nat) (c : OwConn)
    (hk : S.conns[k]? = some c) (hd : c.alive = false) : S.step false (.write k id) = (S, .err) := by
  dsimp only [OwSys.step]
  simp only [hk, h.target hk, hd, Bool.false_eq_true, if_false]

/-- were writers recycled between connections, a write on an ended connection could land on a
    later, healthy one (the model distinguishes the two sources) -/
theorem C15_write_needs_own_writer :
    (((({} : OwSys).run true [.openConn, .die 0, .openConn, .write 0 7]).1).conns.map (·.wire)) = [[], [(0, 7)]] := by
  decide

/-- (pooled read buffers) every `ReadMessage` - one per connection at a time, any number of
    connections - takes its header / small-body buffer from `readerBufferPool` and hands it back
    when it returns, however it returns (the put is deferred: `C15_pool_gen`). For EVERY
    interleaving: two reads never hold the same buffer, so what one connection's peer sends -
    well-formed or not, complete or cut off - is never seen through another connection's buffer -/
theorem C15_pool_exclusive (es : List PoolEv) (p : Pool) (h : Pool.run 1 {} es = some p) :
    (∀ u v b, (u, b) ∈ p.held → (v, b) ∈ p.held → u = v) ∧ (∀ u b, (u, b) ∈ p.held → b ∉ p.free) :=
  Pool.exclusive_of_run h

/-- an extra put on a fault path breaks it: connection 0's read fails and its buffer goes back
    twice; the reads of connections 1 and 2 then share it -/
theorem C15_pool_double_put_counterexample :
    ∃ p, Pool.run 2 {} [.acquire 0, .release 0, .acquire 1, .acquire 2] = some p ∧ (1, 0) ∈ p.held ∧ (2, 0) ∈ p.held :=
  ⟨_, rfl, by decide, by decide⟩

theorem C15_pool_gen :
    Gen.poolUsers.all (fun u => Pool.disciplined u.2) = true ∧
    (Gen.poolUsers.map (·.1)).contains "diam:ReadMessage" = true :=
  -- `simp` compares the string literals, which is dear by `decide` or `rfl`
  ⟨by decide, by simp [Gen.poolUsers]⟩

/-- (a fault on a connection whose writer is stuck in the transport) the deferred function of the
    reader loop closes the transport without waiting for any mutex (`C15_close_gen`): whatever the
    writer is doing, the close is enabled, and it is what ends the stuck write and frees the write
    mutex - the fault costs this connection, and nothing is left behind that another goroutine
    could wait for -/
theorem C15_fault_closes_despite_stuck_writer (es : List CLEv) (s : CLState) (_h : CLState.run false {} es = some s)
    (hr : s.closeRequested = true) (hc : s.closed = false) :
    ∃ s', s.step false .closeDo = some s' ∧ s'.closed = true ∧
      (s'.writer = .inTransport → ∃ s'', s'.step false .writeFails = some s'' ∧ s''.writer = .failed ∧ s''.lockHeld = false) := by
  obtain ⟨s', hs, hc'⟩ := CL_close_enabled s hr hc
  exact ⟨s', hs, hc', fun hw => (CL_writer_released s' hw hc').2⟩

theorem C15_close_gen : Gen.closePaths = [("response.Close", [], true), ("conn.serve.defer1", [], true)] :=
  rfl

/-- structural facts regenerated from server.go -/
theorem C15_gen : Gen.serveDeferRecover = true ∧ Gen.serveDeferClose = true ∧ Gen.serveDeferNotify = true ∧
    Gen.muxServeRLockDeferred = true ∧ Gen.acceptRetryCond = "(ok&&ne.Temporary())" ∧
    Gen.acceptResetsDelay = true ∧ Gen.acceptSpawnsServe = true ∧ Gen.serveDefersListenerClose = true ∧
    Gen.capErrorReports = 1 ∧
    Gen.connBufferSources = ["c.buf=bufio.NewReadWriter(bufio.NewReader(&c.sr),bufio.NewWriter(rwc))"] ∧
    Gen.tlsHandshakeSites = ["conn.serve"] ∧
    -- a failed read is reported unless it IS the end of the stream (identity, not `errors.Is`:
    -- a decode error that wraps ErrUnexpectedEOF is still reported)
    Gen.serveReportCond = "((err!=io.EOF)&&(err!=io.ErrUnexpectedEOF))" ∧
    -- no process-wide channel, mutex or semaphore, and none in `Server`, that a fault on one
    -- connection could leave taken (`C15_frame`)
    Gen.sharedBlockingState = [] :=
  ⟨rfl, rfl, rfl, rfl, rfl, rfl, rfl, rfl, rfl, rfl, rfl, rfl, rfl⟩

/-- non-vacuity: a handler panic on connection 0 while connection 1 is mid-message; connection 1
    completes and dispatches its message afterwards -/
example :
    let d : DictFn := { cmdRules := fun _ _ => some (1, 1), avpType := fun _ _ _ => 0 }
    let m1 : Bytes := [1,0,0,20,0x80,0,1,1, 0,0,0,0, 0,0,0,1, 0,0,0,1]
    (((Sys.init [false, false]).run d true
        [(0, .deliver m1), (0, .readerStep), (0, .readerStep), (1, .deliver (m1.take 7)), (1, .readerStep), (1, .readerStep),
         (0, .handlerPanic), (1, .deliver (m1.drop 7)), (1, .readerStep), (1, .readerStep)]).map
      (fun S => (S.conns.map (fun c => (c.closed, c.handed.length, c.active)), S.rlocks))) =
      some ([(true, 1, 0), (false, 1, 1)], 1) := by
  decide

end DV.Props.C15
