import Model
import Spec
import Gen
import Proofs.SMServer
import Proofs.Header
import Proofs.ConnWrite
/-!
  C16 — answers mirror the request they answer. Theorems about `Msg.answer`
  (`Message.Answer`); `r1 r2` stand for whatever `rand.Uint32()` would return inside
  `NewMessage`, so "mirrors zero" is a statement for all oracle values.
-/
namespace DV.Props.C16
open DV

/-- Every answer built by `Message.Answer` has the request's command code, application id and
    both identifiers (zero included), for every header, result code and random oracle. -/
theorem C16_answer_ids (m : Msg) (rc r1 r2 : Nat) :
    (m.answer rc r1 r2).hdr.cmd = m.hdr.cmd ∧
    (m.answer rc r1 r2).hdr.app = m.hdr.app ∧
    (m.answer rc r1 r2).hdr.hbh = m.hdr.hbh ∧
    (m.answer rc r1 r2).hdr.e2e = m.hdr.e2e := by
  rw [Msg.answer_eq]; exact ⟨rfl, rfl, rfl, rfl⟩

/-- The request bit is cleared, every other flag bit (P, E, T, reserved) is unchanged. -/
theorem C16_answer_flags (m : Msg) (rc r1 r2 : Nat) (hf : m.hdr.flags < 256) :
    isRequest (m.answer rc r1 r2).hdr.flags = false ∧
    (m.answer rc r1 r2).hdr.flags % 128 = m.hdr.flags % 128 := by
  rw [Msg.answer_eq]; exact clearR _

/-- A Result-Code AVP (code 268, M flag, Unsigned32) is the only AVP iff a result code was asked for. -/
theorem C16_answer_result_code (m : Msg) (rc r1 r2 : Nat) :
    (rc ≠ 0 → (m.answer rc r1 r2).avps = [newAVP 268 64 0 (.fix T.u32 (rc % 4294967296))]) ∧
    (rc = 0 → (m.answer rc r1 r2).avps = []) := by
  rw [Msg.answer_eq]; exact ⟨fun h => if_pos h, fun h => if_neg (not_not_intro h)⟩

/-- The answer carries the stream the request arrived on, and `WriteTo` writes it there. -/
theorem C16_answer_stream (m : Msg) (rc r1 r2 : Nat) :
    (m.answer rc r1 r2).stream = m.stream ∧ (m.answer rc r1 r2).writeStream = m.stream := by
  rw [Msg.writeStream, Msg.answer_eq]; exact ⟨rfl, rfl⟩

/-- `SCTPConn.WriteStream` maps every stream number below 2^16 to itself. -/
theorem C16_sctp_stream (s : Nat) (h : s < 65536) : sctpStreamOf s = s := by
  rw [sctpStreamOf, if_neg (by unfold invalidStream; omega), Nat.mod_eq_of_lt h]

/-- the header length kept by the answer equals its serialised size -/
theorem C16_answer_len (m : Msg) (rc r1 r2 : Nat) :
    (m.answer rc r1 r2).hdr.len = (m.answer rc r1 r2).len := by
  rw [Msg.answer_eq, Msg.len]; split <;> rfl

/-- the state machine's CEA (success and failure) mirrors the request: identifiers (zero
    included), command code, application id -/
theorem C16_cea (cfg : Settings) (apps : List SApp) (ips : List Bytes) (req : Header) (v : CERView) (e : PErr)
    (hf : req.flags < 256) :
    (successCEA cfg apps ips req v).hdr.hbh = req.hbh ∧ (successCEA cfg apps ips req v).hdr.e2e = req.e2e ∧
    (successCEA cfg apps ips req v).hdr.cmd = req.cmd ∧ (successCEA cfg apps ips req v).hdr.app = req.app ∧
    (errorCEA cfg ips req v.osid e).hdr.hbh = req.hbh ∧ (errorCEA cfg ips req v.osid e).hdr.e2e = req.e2e := by
  have a := successCEA_fields cfg apps ips req v
  have b := errorCEA_fields cfg ips req v.osid e
  exact ⟨a.hbh, a.e2e, a.cmd, a.app, b.hbh, b.e2e⟩

/-- the state machine's DWA mirrors the request -/
theorem C16_dwa (cfg : Settings) (req : Header) (hf : req.flags < 256) :
    (dwa cfg req).hdr.hbh = req.hbh ∧ (dwa cfg req).hdr.e2e = req.e2e ∧ (dwa cfg req).hdr.cmd = req.cmd ∧
    (dwa cfg req).hdr.app = req.app ∧ isRequest (dwa cfg req).hdr.flags = false ∧
    (dwa cfg req).hdr.flags % 128 = req.flags % 128 := by
  have a := dwa_fields cfg req
  exact ⟨a.hbh, a.e2e, a.cmd, a.app, a.flags ▸ clearR req.flags⟩

/-- Answers written at the same time keep their streams: `response.WriteStream` hands the stream
    to the association together with the bytes (`Gen.responseWriteStreamExits`), so in every
    interleaving of any number of writing goroutines each message the association is given
    carries the stream of the write that produced it. -/
theorem C16_concurrent_streams (es : List SWEv) :
    ∀ p ∈ (({} : SWState).run true es).log, SWEv.write p.1 p.2 ∈ es := by
  intro p hp
  exact (SW_direct es {} p hp).resolve_left nofun

/-- ... whereas selecting the association's writer stream first and writing afterwards lets
    another goroutine's selection in between: answer 1, for stream 3, leaves on stream 9 -/
theorem C16_select_then_write_counterexample :
    (({} : SWState).run false [.select 1 3, .select 2 9, .write 1 3, .write 2 9]).log = [(1, 9), (2, 9)] := by
  decide

/-- obligations on the regenerated constants the model hard-codes, and on the shape of
    `response.WriteStream` -/
theorem C16_gen : Gen.RequestFlag = 128 ∧ Gen.InvalidStreamID = invalidStream ∧ Gen.Mbit = 64 ∧
    Gen.responseWriteStreamExits = ["return msc.WriteStream(b,stream)", "return w.Write(b)"] ∧
    -- an answer inherits its request's stream, and WriteTo / WriteToWithRetry write to the message's
    -- own stream - not to whatever stream is pinned on the connection (`Msg.answer`, `Msg.writeStream`)
    Gen.writeStreamArgs = ["WriteTo:WriteToStream:m.stream", "WriteToWithRetry:WriteToStreamWithRetry:m.stream",
      "WriteToStream:WriteToStreamWithRetry:stream", "Answer:stream:m.stream"] :=
  ⟨rfl, rfl, rfl, rfl, rfl⟩

/-- non-vacuity: a request with both identifiers zero, P bit set, on stream 3 -/
example :
    let m : Msg := { hdr := { version := 1, len := 20, flags := 192, cmd := 272, app := 4, hbh := 0, e2e := 0 }, avps := [], stream := 3 }
    (m.answer 2001 77 88).hdr.hbh = 0 ∧ (m.answer 2001 77 88).hdr.flags = 64 ∧ (m.answer 2001 77 88).stream = 3 := by
  decide

end DV.Props.C16
