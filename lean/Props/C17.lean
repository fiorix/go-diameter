import Model
import Spec
import Gen
import Proofs.Dict
import Proofs.DictMono
/-!
  C17 — dictionary lookups resolve through the application, its parents, then base.
  `Parser` is the indexed model of `dict.Parser` (maps with overwrite, wildcard entries, partial
  loads kept on error); `Spec.Log` is the plain chronological record of definitions. All
  theorems are for every list of dictionary files (the embedded ones and any generated ones).
-/
namespace DV.Props.C17
open DV DV.Spec

/-- (a) Looking up an AVP by code for an application yields the most recently loaded definition
    for that application with the exact vendor id - or any vendor for the wildcard - else the
    parent applications' one by one, else the base application's. -/
theorem C17_resolution_code (available : List (Nat × Nat)) (fs : List FileRow) (parents : List (Nat × Nat))
    (fuel app code vendor : Nat) :
    (Parser.loadAll available fs).findCode parents fuel app code vendor =
      Spec.findCode (logAll available fs) parents fuel app code vendor :=
  findCode_refines _ _ parents (loadAll_refines available fs) fuel app code vendor

/-- ... and by name. -/
theorem C17_resolution_name (available : List (Nat × Nat)) (fs : List FileRow) (parents : List (Nat × Nat))
    (fuel app name vendor : Nat) :
    (Parser.loadAll available fs).findName parents fuel app name vendor =
      Spec.findName (logAll available fs) parents fuel app name vendor :=
  findName_refines _ _ parents (loadAll_refines available fs) fuel app name vendor

/-- (b) A command resolves in the message's own application, else in the base application. -/
theorem C17_command (available : List (Nat × Nat)) (fs : List FileRow) (app code : Nat) :
    (Parser.loadAll available fs).findCommand app code = Spec.findCommand (logAll available fs) app code :=
  findCommand_refines _ _ (loadAll_refines available fs) app code

/-- an undefined numeric code yields the opaque placeholder type, so decoding can proceed -/
theorem C17_placeholder (p : Parser) (parents : List (Nat × Nat)) (app code vendor : Nat)
    (h : p.findCode parents (chainFuel parents) app code vendor = none) :
    p.avpType parents app code vendor = T.unknown := by
  simp [Parser.avpType, h, T.unknown]

/-- (c) Loading one more dictionary never makes a resolvable AVP (by code or by name), command
    or application id unresolvable - for every earlier file list and every further file. -/
theorem C17_monotone (available : List (Nat × Nat)) (fs : List FileRow) (f : FileRow) (parents : List (Nat × Nat)) :
    (∀ fuel app code vendor, ((Parser.loadAll available fs).findCode parents fuel app code vendor).isSome →
        ((Parser.loadAll available (fs ++ [f])).findCode parents fuel app code vendor).isSome) ∧
    (∀ fuel app name vendor, ((Parser.loadAll available fs).findName parents fuel app name vendor).isSome →
        ((Parser.loadAll available (fs ++ [f])).findName parents fuel app name vendor).isSome) ∧
    (∀ app code, ((Parser.loadAll available fs).findCommand app code).isSome →
        ((Parser.loadAll available (fs ++ [f])).findCommand app code).isSome) ∧
    (∀ id typ, ((Parser.loadAll available fs).app id typ).isSome →
        ((Parser.loadAll available (fs ++ [f])).app id typ).isSome) := by
  rw [loadAll_snoc]
  have he := load_ext available (Parser.loadAll available fs) f
  exact ⟨findCode_mono _ _ he parents, findName_mono _ _ he parents, findCommand_mono _ _ he,
    app_mono _ _ he (loadAll_appCons available fs)⟩

/-- the parent table regenerated from util.go has no cycle: from every application id the
    chain reaches the base application within three steps, so the `goto retry` loop terminates
    and `chainFuel` (= table size + 2) iterations are enough -/
theorem C17_chain (app : Nat) :
    parentOf Gen.parentAppIds (parentOf Gen.parentAppIds (parentOf Gen.parentAppIds app)) = 0 := by
  -- whatever `app` is, its parent is one of finitely many ids; from each the base is two steps away
  have h : ∀ a ∈ 0 :: Gen.parentAppIds.map (·.2),
      parentOf Gen.parentAppIds (parentOf Gen.parentAppIds a) = 0 := by decide
  exact h _ (parentOf_mem _ app)

/-- (d) every data type name a dictionary may declare has a decoder: `datatype.Available`
    (what `Load` accepts) maps into the keys of `datatype.Decoder`, and the codec model decodes
    every one of those type ids (never "unknown data type") -/
theorem C17_types :
    (Gen.available.all (fun p => Gen.decoderKeys.contains p.2)) = true ∧
    (Gen.available.all (fun p => Gen.marshalCases.contains p.2)) = true ∧
    (Gen.available.map (·.2)).all (fun t => t = T.grouped || (decodeLeaf t [0, 8, 1, 2]).isOk) = true := by
  decide

/-- (e) the exported code constants equal the codes in the embedded dictionaries: for every
    distinct (name, code) of every embedded dictionary for which a constant of the derived Go
    name (autogen.sh naming) exists, the constant has that value; same for commands and
    applications. (The Rx dictionary's AVPs have no constants at this commit - they are the
    entries marked `unrecognised`; that more than 700 AVP names ARE covered is part of the statement.) -/
theorem C17_consts :
    (Gen.avpCodeJoin.all (fun r => r.2.2 == Gen.unrecognised || r.2.1 == r.2.2)) = true ∧
    (Gen.avpCodeJoin.filter (fun r => r.2.2 != Gen.unrecognised)).length ≥ 700 ∧
    (Gen.cmdCodeJoin.all (fun r => r.2.1 == r.2.2)) = true ∧
    (Gen.appCodeJoin.all (fun r => r.2.2 == Gen.unrecognised || r.2.1 == r.2.2)) = true := by
  decide +kernel

/-- the embedded dictionaries load without error, in the order `dict.init()` loads them -/
theorem C17_default_loads :
    (Gen.dictFiles.foldl (fun (acc : Parser × Bool) f =>
        let r := acc.1.load Gen.availableIds f; (r.1, acc.2 && r.2)) ({}, true)).2 = true := by
  decide +kernel

theorem C17_gen : Gen.UndefinedVendorID = UndefinedVendorID ∧ Gen.dictLoadOrder.length = Gen.dictFiles.length :=
  ⟨rfl, rfl⟩

/-- non-vacuity: two files; the second redefines code 1 for application 9 under another vendor -/
example :
    let av : List (Nat × Nat) := [(5, 16), (6, 15)]
    let f1 : FileRow := [(0, 0, [], [(257, 1, 2, 3)], [(10, 1, 0, true, 5, 0)]), (9, 0, [], [], [(11, 1, 77, false, 5, 0)])]
    let f2 : FileRow := [(9, 0, [], [], [(12, 1, 78, false, 6, 2)])]
    let p := Parser.loadAll av [f1, f2]
    (p.findCode [] 3 9 1 77).map (·.name) = some 11 ∧ (p.findCode [] 3 9 1 UndefinedVendorID).map (·.name) = some 12 ∧
    (p.findCode [] 3 9 1 5).map (·.name) = none ∧ (p.findCode [] 3 9 1 0).map (·.name) = some 10 := by
  decide

end DV.Props.C17
