import Model
import Spec
import Proofs.Reflect
import Proofs.ReflectInv
import Proofs.ReflectWire
import Proofs.RoundTrip
/-!
  C18 — struct marshalling and unmarshalling are inverse and dictionary-faithful.
  `Model.Reflect`: shapes of tagged Go structs (leaf Go types, pointers, slices, nested /
  anonymous / embedded structs, `diam.AVP` fields, `omitempty`), values of those shapes,
  `marshalStruct` / `marshal` and `scanStruct` / `unmarshal` branch by branch, Go's
  convertibility between the field types as `toData` / `fromData`.
-/
namespace DV.Props.C18
open DV DV.Spec

/-- Dictionary-faithful: for every struct shape without `diam.AVP`-typed fields, every value and
    every dictionary in which a code determines its entry, every AVP that `Marshal` produces - at
    every nesting depth - carries the code's dictionary entry: the entry's vendor id, the M flag
    iff Must contains "M", the V flag iff the entry has a vendor id, and no other flag.
    (Mutual induction over the value; `diam.AVP` fields are the caller's own AVPs, passed through.) -/
theorem C18_faithful (find : FindFn) (byCode : Nat → Option DEnt)
    (hB : ∀ n e, entOf find n = some e → byCode e.code = some e)
    (fs : List SField) (vs : List RV) (as : List AVP) (hn : noAVPFields fs = true)
    (h : marshalStruct find fs vs = .ok as) : dictOKL byCode as = true :=
  marshalStruct_faithful find byCode hB fs vs as hn h

/-- the AVP built for one leaf field is the hand-built one: code, vendor id and flags from the
    dictionary entry, the field's value converted to the entry's data type -/
theorem C18_leaf (find : FindFn) (t : GoT) (v : GV) (e : DEnt) (d : Val) (hg : e.ty ≠ T.grouped)
    (hd : toData e.ty t v = some d) :
    marshalField find (.leaf t) (.leaf v) e = .ok [AVP.mk e.code (flagsOf e) 0 e.vendor d] := by
  simp [marshalField, hg, hd, mkFieldAVP, flagsOf]

/-- nil pointers and nil slices produce no AVP; an `omitempty` field that is empty is skipped -/
theorem C18_optional (find : FindFn) (s : Shape) (e : DEnt) (tag : FieldTag) (v : RV) :
    marshalField find (.ptr s) .nil e = .ok [] ∧ marshalField find (.slice s) .nil e = .ok [] ∧
    (tag.omitE = true → v.isEmpty = true → fieldOut find tag s v = .ok []) :=
  ⟨rfl, rfl, fun h1 h2 => by simp [fieldOut, h1, h2]⟩

/-- the conversions are inverse on the values the well-formedness predicate admits: what a leaf
    field is converted to on the way out converts back to the same value -/
theorem C18_leaf_inverse (find : FindFn) (t : GoT) (v : GV) (e : DEnt) (hw : wfField find (.leaf t) (.leaf v) e = true)
    (cur : RV) :
    ∃ d, marshalField find (.leaf t) (.leaf v) e = .ok [mkFieldAVP e d] ∧
      unmarshalField find (.leaf t) [mkFieldAVP e d] cur = .leaf v := by
  obtain ⟨d, hm, hu⟩ := leafRT find hw
  exact ⟨d, hm, hu [] cur⟩

/-- The round trip, at full strength: for every dictionary, every struct shape and every value
    inside the well-formed fragment - tags resolve; the codes of one struct level (embedded
    structs flattened) are pairwise distinct; each leaf value survives its conversion pair;
    pointees and slice elements are non-nil values of one-AVP shapes; grouped AVPs are structs or
    `diam.AVP`s with the entry's code - `Marshal` succeeds, and `Unmarshal` of its output into a
    fresh struct yields the value in normal form: nil and empty slices identified, untagged
    fields and fields omitted because empty read back as their zero value, everything else -
    scalars of every data type, pointers, slices, nested, anonymous and embedded structs, AVP /
    *AVP / []*AVP fields - exactly as it was.  (Mutual structural induction over the value.) -/
theorem C18_inverse (find : FindFn) (fs : List SField) (vs : List RV) (hw : wfStruct find fs vs = true)
    (hd : distinct (levelCodes find fs) = true) :
    ∃ as, marshalStruct find fs vs = .ok as ∧ scanFields find fs as (zeroOf.zeroFields fs) = normFields fs vs :=
  let ⟨as, h, r⟩ := marshal_unmarshal find fs vs hw hd
  ⟨as, h, r as fun _ _ => rfl⟩

/-- ... and the same after a wire round trip: if the marshalled AVPs are canonical values of the
    types the dictionary typing assigns (C01's hypothesis) and the struct has no `diam.AVP`-typed
    field, then decoding the serialised AVPs and unmarshalling them gives the same struct
    (composition with C01_api_avps: the tree read back is `wireL as`, and `Unmarshal` does not
    look at Length fields). -/
theorem C18_wire (find : FindFn) (ty : Nat → Nat → Nat) (fs : List SField) (vs : List RV)
    (hw : wfStruct find fs vs = true) (hd : distinct (levelCodes find fs) = true) (hn : noAVPFields fs = true) :
    ∃ as, marshalStruct find fs vs = .ok as ∧
      (canonL as = true → typedOkL ty as = true → lenL as < 16777216 →
        ∃ as', decodeAVPs ty ((encL as).length + 1) (encL as) = .ok as' ∧
          scanFields find fs as' (zeroOf.zeroFields fs) = normFields fs vs) := by
  obtain ⟨as, h1, h2⟩ := marshal_unmarshal find fs vs hw hd
  refine ⟨as, h1, fun hc ht hsz => ⟨wireL as, api_avps_rt ty as hc ht hsz, ?_⟩⟩
  rw [scan_wire find fs as _ hn]; exact h2 as fun _ _ => rfl

/-- the hypothesis about distinct codes is needed: two fields of one struct naming the same AVP
    both receive all AVPs with that code (kernel-evaluated) -/
theorem C18_duplicate_code_counterexample :
    let find : FindFn := fun n => if n = 1 then some (9007, 0, true, T.u32) else none
    let fs : List SField := [.mk ⟨1, false, false⟩ (.leaf .uint32), .mk ⟨1, false, false⟩ (.leaf .uint32)]
    let vs : List RV := [.leaf (.i 5), .leaf (.i 6)]
    (match marshalStruct find fs vs with
     | .ok as => rvsBeq (scanFields find fs as (zeroOf.zeroFields fs)) [.leaf (.i 5), .leaf (.i 5)]
     | _ => false) = true := by
  decide

/-- non-vacuity / a kernel-evaluated instance of the statement: a struct with a string, an
    omitted empty field, a pointer to a nested struct with a slice, round-tripped -/
example :
    let find : FindFn := fun n => if n = 1 then some (9001, 0, true, T.octets) else if n = 2 then some (9007, 0, true, T.u32)
      else if n = 3 then some (9018, 10415, true, T.grouped) else none
    let inner : Shape := .struct [.mk ⟨2, false, false⟩ (.slice (.leaf .uint32)), .mk ⟨1, true, false⟩ (.leaf .string)]
    let fs : List SField := [.mk ⟨1, false, false⟩ (.leaf .string), .mk ⟨3, false, false⟩ (.ptr inner)]
    let vs : List RV := [.leaf (.s [104, 105]), .ptr (.struct [.slice [.leaf (.i 7), .leaf (.i 9)], .leaf (.s [])])]
    wfStruct find fs vs = true ∧ distinct (levelCodes find fs) = true ∧
    (match marshalStruct find fs vs with
     | .ok as => as.length == 2 && rvsBeq (scanFields find fs as (zeroOf.zeroFields fs)) (normFields fs vs)
     | _ => false) = true := by
  decide

end DV.Props.C18
