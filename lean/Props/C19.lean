import Model
import Spec
import Gen
import Proofs.Sctp
import Props.C05
/-!
  C19 — SCTP multistream: every message is assembled from one stream, in order.
  `Model.Sctp`: the association is the list of data chunks `(stream, bytes)` still to come, in
  any interleaving and any chunking; `SCTPConn` keeps per-stream buffers for data that arrived
  while another stream was being read. The connection's single reader loop calls
  `ResetCurrentStream; ReadMessage` repeatedly. Which buffered stream `ReadAny` serves first is
  the heap's choice - an oracle here, universally quantified.
-/
namespace DV.Props.C19
open DV DV.Spec

/-- For every number of streams, every chunking of each stream's bytes, every interleaving of
    the chunks and every choice of the buffer heap: the messages delivered from stream σ (the
    ones tagged σ) are, in order, exactly the first messages of the reference split - by declared
    length - of σ's own byte sequence; none is lost, duplicated or contains a byte of another
    stream; what is left of σ is exactly what follows them. -/
theorem C19_perstream (d : DictFn) (picks : List (Option Nat)) (s : SS) (hw : s.wf) (σ : Nat) :
    onStream σ (s.readLoopS d picks).1 =
      splitMsgs d (onStream σ (s.readLoopS d picks).1).length (s.streamBytes σ) s.fin ∧
    (s.readLoopS d picks).2.streamBytes σ =
      splitRest d (onStream σ (s.readLoopS d picks).1).length (s.streamBytes σ) s.fin :=
  ⟨(readLoopS_perstream d picks s hw σ).1, (readLoopS_perstream d picks s hw σ).2.1⟩

/-- `splitMsgs` is the message part of C05's reference split -/
theorem C19_reference (d : DictFn) (k : Nat) (bs : Bytes) (fin : Fin) :
    splitMsgs d k bs fin = (split d k bs fin).1.filterMap (fun r => match r with | .msg m => some m | _ => none) :=
  splitMsgs_eq d k bs fin

/-- One message: its outcome is the reference outcome on the chosen stream's bytes alone, its
    tag is that stream, no other stream loses or gains a byte, and after a message exactly its
    declared length is gone from the stream. -/
theorem C19_one_message (d : DictFn) (pick : Option Nat) (s : SS) (hw : s.wf)
    (hany : (readAny pick 20 s).1.2.2 = true) :
    (s.readMessage d pick).1.1 = (splitStep d (s.streamBytes (s.readMessage d pick).1.2) s.fin).1 ∧
    (∀ τ, τ ≠ (s.readMessage d pick).1.2 → (s.readMessage d pick).2.streamBytes τ = s.streamBytes τ) ∧
    (∀ m n, splitStep d (s.streamBytes (s.readMessage d pick).1.2) s.fin = (.msg m, n) →
      (s.readMessage d pick).2.streamBytes (s.readMessage d pick).1.2 =
        (s.streamBytes (s.readMessage d pick).1.2).drop n) := by
  cases hrm : s.readMessage d pick with
  | mk rt s' =>
    obtain ⟨res, σ⟩ := rt
    obtain ⟨n, hs, -, -, ho, hm⟩ := readMessage_core d pick hw hany hrm
    exact ⟨by rw [hs], ho, fun m n' e => by rw [hs] at e; cases e; exact hm m rfl⟩

/-- Completeness: if, when the loop stops, nothing of stream σ is left (buffered or in the
    socket), then every message of σ's byte sequence has been delivered. -/
theorem C19_complete (d : DictFn) (picks : List (Option Nat)) (s : SS) (hw : s.wf) (σ : Nat)
    (hdone : (s.readLoopS d picks).2.streamBytes σ = []) (j : Nat) :
    splitMsgs d ((onStream σ (s.readLoopS d picks).1).length + j) (s.streamBytes σ) s.fin =
      onStream σ (s.readLoopS d picks).1 := by
  obtain ⟨h1, h2⟩ := C19_perstream d picks s hw σ
  rw [h2] at hdone
  rw [splitMsgs_done d s.fin _ _ hdone j]
  exact h1.symm

/-- the reference split of a concatenation of complete messages (`C05.Whole`) is that list of
    messages, however many more it is asked for -/
theorem splitMsgs_whole (d : DictFn) (fin : Fin) (wms : List (Bytes × Msg))
    (hw : ∀ p ∈ wms, C05.Whole d p.1 p.2) (j : Nat) :
    splitMsgs d (wms.length + j) (wms.map Prod.fst).flatten fin = wms.map Prod.snd := by
  have h := C05.cut_whole d wms hw [] fin j
  rw [List.append_nil, List.length_map] at h
  rw [splitMsgs_eq, h, List.filterMap_append, ← splitMsgs_eq, splitMsgs_nil, List.append_nil, List.filterMap_map]
  exact List.filterMap_some

/-- **Every stream's messages, whole and in order.** If the bytes of stream σ - in whatever
    chunks, interleaved in whatever way with the chunks of other streams, served in whatever order
    by the buffer heap - are the concatenation of complete messages, and nothing of σ is left
    when the reader loop stops, then the messages delivered with tag σ are exactly those messages,
    in that order: none lost, duplicated or mixed with another stream's bytes. -/
theorem C19_whole_streams (d : DictFn) (picks : List (Option Nat)) (s : SS) (hw : s.wf) (σ : Nat)
    (wms : List (Bytes × Msg)) (hwm : ∀ p ∈ wms, C05.Whole d p.1 p.2)
    (hb : s.streamBytes σ = (wms.map Prod.fst).flatten)
    (hdone : (s.readLoopS d picks).2.streamBytes σ = []) :
    onStream σ (s.readLoopS d picks).1 = wms.map Prod.snd := by
  have h1 := C19_complete d picks s hw σ hdone wms.length
  have h2 := splitMsgs_whole d s.fin wms hwm (onStream σ (s.readLoopS d picks).1).length
  rw [hb] at h1
  rw [Nat.add_comm] at h2
  rw [← h1, h2]

/-- how the source uses the streams, regenerated: the header is read from ANY stream and the
    stream is pinned; the body is read from that stream; `ReadAtLeast` = one `ReadAny` (only when
    no stream is given) then `ReadStream` on the same stream; the reader loop resets the stream
    before every message; `WriteStream` hands the stream to the socket -/
theorem C19_gen :
    Gen.sctpHeaderReads = ["msr.ReadAtLeast(b,HeaderLength,InvalidStreamID)"] ∧
    Gen.sctpHeaderPins = ["msr.SetCurrentStream(stream)"] ∧
    Gen.sctpBodyReads = ["msr.ReadAtLeast(p,len(p),stream)"] ∧
    Gen.sctpAtLeastReads = ["msc.ReadAny(buf)", "msc.ReadStream(buf[n:],stream)"] ∧
    Gen.connResetsStream = ["msc.ResetCurrentStream()"] ∧
    Gen.sctpWriteStreamCalls = ["msc.SCTPWrite(b,info)"] ∧ Gen.HeaderLength = 20 :=
  ⟨rfl, rfl, rfl, rfl, rfl, rfl, rfl⟩

/-- non-vacuity: two streams; stream 7's message arrives in three chunks (one ending inside the
    header) interleaved with a whole message on stream 3; both are delivered whole, each tagged
    with its stream -/
example :
    let d : DictFn := { cmdRules := fun _ _ => some (1, 1), avpType := fun _ _ _ => 0 }
    let m1 : Bytes := [1,0,0,20,0x80,0,1,1, 0,0,0,0, 0,0,0,1, 0,0,0,1]
    let m2 : Bytes := [1,0,0,20,0x80,0,1,1, 0,0,0,0, 0,0,0,2, 0,0,0,2]
    let s : SS := { bufs := fun _ => [], chunks := [(7, m1.take 5), (3, m2), (7, (m1.drop 5).take 10), (7, m1.drop 15)], fin := .eof }
    ((s.readLoopS d [none, some 3, none]).1.map (fun p => (p.1.hdr.hbh, p.2))) = [(1, 7), (2, 3)] := by
  decide

/-- non-vacuity of `C19_whole_streams`: in the schedule above stream 7's bytes are one complete
    message and nothing of stream 7 is left when the loop stops -/
example :
    let d : DictFn := { cmdRules := fun _ _ => some (1, 1), avpType := fun _ _ _ => 0 }
    let m1 : Bytes := [1,0,0,20,0x80,0,1,1, 0,0,0,0, 0,0,0,1, 0,0,0,1]
    let m2 : Bytes := [1,0,0,20,0x80,0,1,1, 0,0,0,0, 0,0,0,2, 0,0,0,2]
    let s : SS := { bufs := fun _ => [], chunks := [(7, m1.take 5), (3, m2), (7, (m1.drop 5).take 10), (7, m1.drop 15)], fin := .eof }
    s.streamBytes 7 = m1 ∧ (s.readLoopS d [none, some 3, none]).2.streamBytes 7 = [] := by
  decide

end DV.Props.C19
