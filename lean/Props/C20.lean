import Model
import Spec
import Gen
import Proofs.Find
/-!
  C20 — AVP search returns exactly what a reference tree walk finds.
  `findAllL` / `findFirstL` / `withPath` model `findFromAVP` and `avpsWithPath`;
  `Spec.preorderL` and `Spec.followPath` are the reference walk. All statements are for
  every tree (any depth, repeated codes, empty groups), every code and every path.
-/
namespace DV.Props.C20
open DV DV.Spec

theorem findAll_eq (c : Nat) : ∀ a : AVP, findAll c a = (preorder a).filter (fun x => x.code = c) :=
  (findAll_preorder c).1

/-- `FindAVPs`: every AVP with the requested code, in depth-first document order. -/
theorem C20_all (c : Nat) (as : List AVP) :
    findAllL c as = (preorderL as).filter (fun x => x.code = c) := (findAll_preorder c).2 as

theorem findFirst_eq (c : Nat) : ∀ a : AVP, findFirst c a = (preorder a).find? (fun x => x.code = c) :=
  (findFirst_preorder c).1

/-- `FindAVP`: the first AVP with the requested code in depth-first document order;
    `none` (an error) exactly when the tree has no such AVP. -/
theorem C20_first (c : Nat) (as : List AVP) :
    findFirstL c as = (preorderL as).find? (fun x => x.code = c) := (findFirst_preorder c).2 as

/-- never a different AVP: whatever is returned has the requested code and occurs in the tree -/
theorem C20_first_sound (c : Nat) (as : List AVP) (x : AVP) (h : findFirstL c as = some x) :
    x.code = c ∧ x ∈ preorderL as := by
  rw [C20_first] at h
  have h1 := List.find?_some h
  exact ⟨of_decide_eq_true h1, List.mem_of_find?_eq_some h⟩

theorem C20_all_sound (c : Nat) (as : List AVP) (x : AVP) (h : x ∈ findAllL c as) :
    x.code = c ∧ x ∈ preorderL as := by
  rw [C20_all] at h
  exact ⟨of_decide_eq_true (List.mem_filter.1 h).2, (List.mem_filter.1 h).1⟩

/-- `FindAVPsWithPath`: exactly the AVPs reached by following the codes level by level
    through grouped AVPs (the empty path is the top level). -/
theorem C20_path : ∀ (p : List Nat) (as : List AVP), withPath as p = followPath as p :=
  withPath_eq_followPath

/-- obligation on the regenerated constant: the model's grouped type id -/
theorem C20_gen : Gen.GroupedAVPType = T.groupedAVP ∧
    -- a search is a function of the tree as it is: the message holds no index of it
    Gen.messageStructFields = ["Header *Header", "AVP []*AVP", "dictionary *dict.Parser", "stream uint", "ctx context.Context"] ∧
    Gen.groupedStructFields = ["AVP []*AVP"] :=
  ⟨rfl, rfl, rfl⟩

/-- non-vacuity: a code repeated at three depths, a group inside a group, an empty group -/
example :
    let leaf (c n : Nat) : AVP := .mk c 64 12 0 (.fix 16 n)
    let t : List AVP := [leaf 264 1, .mk 260 64 0 0 (.group [leaf 264 2, .mk 260 0 0 0 (.group [leaf 264 3]), .mk 279 0 8 0 (.group [])])]
    (findAllL 264 t).length = 3 ∧ findFirstL 264 t = some (leaf 264 1) ∧ (withPath t [260, 260, 264]) = [leaf 264 3] ∧
    findFirstL 1 t = none := by
  refine ⟨by rfl, by rfl, by rfl, by rfl⟩

end DV.Props.C20
